import MiniMcmcVerif.Model.Util
import MiniMcmcVerif.Model.Run
import MiniMcmcVerif.Props.C09
import MiniMcmcVerif.Model.Gibbs
import MiniMcmcVerif.Props.C05
import MiniMcmcVerif.Model.Categorical
import MiniMcmcVerif.Props.C16
import MiniMcmcVerif.Model.MH
import MiniMcmcVerif.Model.IEEE
import MiniMcmcVerif.Props.IEEE
import MiniMcmcVerif.Props.C01
import MiniMcmcVerif.Model.Init
import MiniMcmcVerif.Props.C18
import MiniMcmcVerif.Model.IO
import MiniMcmcVerif.Props.C17
import MiniMcmcVerif.Model.Stats
import MiniMcmcVerif.Props.StatsBasic
import MiniMcmcVerif.Props.C13
import MiniMcmcVerif.Props.C11
import MiniMcmcVerif.Props.C12
import MiniMcmcVerif.Model.Seeds
import MiniMcmcVerif.Model.Sched
import MiniMcmcVerif.Props.C07
import MiniMcmcVerif.Props.C08
import MiniMcmcVerif.Model.Reporter
import MiniMcmcVerif.Props.C10
import MiniMcmcVerif.Model.Dist
import MiniMcmcVerif.Props.C15
import MiniMcmcVerif.Props.C15Measure
import MiniMcmcVerif.Model.HMC
import MiniMcmcVerif.Props.C02
import MiniMcmcVerif.Model.NUTS
import MiniMcmcVerif.Model.DualAvg
import MiniMcmcVerif.Props.C04
import MiniMcmcVerif.Props.NutsTree
import MiniMcmcVerif.Props.C03
import MiniMcmcVerif.Props.C03NV
import MiniMcmcVerif.Props.C14
import MiniMcmcVerif.Props.C11Unbounded
import MiniMcmcVerif.Props.C05Invariance
import MiniMcmcVerif.Props.C03Uniform
import MiniMcmcVerif.Props.C12Invariance
import MiniMcmcVerif.Props.C10Tight
import MiniMcmcVerif.Props.C01Measure
import MiniMcmcVerif.Props.C06
import MiniMcmcVerif.Props.C15Rosen
import MiniMcmcVerif.Props.C04Eps
import MiniMcmcVerif.Props.C05Stale
import MiniMcmcVerif.Props.C06Involutive
import MiniMcmcVerif.Props.C12DFT
import MiniMcmcVerif.Props.C03Transition
import MiniMcmcVerif.Props.C14Nuts
import MiniMcmcVerif.Props.C13Ess
import MiniMcmcVerif.Props.C11Median
import MiniMcmcVerif.Props.C06Measure
import MiniMcmcVerif.Props.C16Measure
