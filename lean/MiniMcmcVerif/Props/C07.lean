import MiniMcmcVerif.Model.Seeds
import MiniMcmcVerif.Model.Sched
import MiniMcmcVerif.Props.C18
import Mathlib.Logic.Function.Iterate
import Mathlib.Tactic.Positivity
import Mathlib.Data.Rat.Defs
import Mathlib.Algebra.Order.Field.Basic

/-!
# C07 — same seed, same output: schedule independence and seed injectivity
-/

namespace MiniMcmcVerif.Sched

variable {σ : Type}

theorem exec_length (step : σ → σ) (chains : List σ) (sched : List Nat) :
    (exec step chains sched).length = chains.length := by
  induction sched generalizing chains with
  | nil => rfl
  | cons i is ih => exact (ih _).trans (List.length_modify step chains i)

/-- every chain ends in the state its own step function reaches after as many steps as the schedule gave it:
    the result of chain `i` does not depend on the other chains at all. -/
theorem exec_chain (step : σ → σ) (chains : List σ) (sched : List Nat) (i : Nat) :
    (exec step chains sched)[i]? = (chains[i]?).map (step^[sched.count i]) := by
  induction sched generalizing chains with
  | nil => exact Option.map_id'.symm
  | cons j js ih =>
    show (exec step (stepAt step chains j) js)[i]? = _
    rw [ih, stepAt, List.getElem?_modify, Option.map_eq_map, Option.map_map]
    by_cases h : j = i
    · rw [h, List.count_cons_self, Function.iterate_succ]
      simp only [if_true]
    · rw [List.count_cons_of_ne h]
      simp only [if_neg h]
      rfl

/-- **schedule independence**: two schedules that step every chain the same number of times (permutations of each
    other) leave every chain in the same state — for any number of chains and any interleaving. -/
theorem exec_perm (step : σ → σ) (chains : List σ) (s₁ s₂ : List Nat) (h : s₁.Perm s₂) :
    exec step chains s₁ = exec step chains s₂ :=
  List.ext_getElem? fun i => by rw [exec_chain, exec_chain, h.count_eq]

theorem stepAt_comm (step : σ → σ) (chains : List σ) (i j : Nat) :
    stepAt step (stepAt step chains i) j = stepAt step (stepAt step chains j) i :=
  exec_perm step chains [i, j] [j, i] (.swap ..)

/-- `run` is a function of (inputs, seed): with the chains' generators inside the chain state there is no hidden
    state — two executions from equal initial states under *any* two fair schedules agree. -/
theorem run_deterministic (step : σ → σ) (c₁ c₂ : List σ) (s₁ s₂ : List Nat) (hc : c₁ = c₂) (hs : s₁.Perm s₂) :
    exec step c₁ s₁ = exec step c₂ s₂ := by subst hc; exact exec_perm step c₁ s₁ s₂ hs

example : exec (· + 1) [10, 20] [0, 1, 1, 0, 1] = exec (· + 1) [10, 20] [1, 1, 1, 0, 0] := by decide

end MiniMcmcVerif.Sched

namespace MiniMcmcVerif.Seeds

/-- `z ↦ z ^ f z` is injective on 64-bit words when `f` is xor-linear and nilpotent: `d = f d` forces
    `d = f^[m] d = 0`. Both xorshift steps of splitmix64 and of xoshiro256++ are of this form. -/
theorem xor_self_injective (f : W → W) (hf : ∀ a b, f (a ^^^ b) = f a ^^^ f b) (m : Nat) (hm : ∀ z, f^[m] z = 0#64) :
    Function.Injective fun z => z ^^^ f z := by
  intro a b h
  have hd : f (a ^^^ b) = a ^^^ b := by
    have h' : (a ^^^ f a) ^^^ (b ^^^ f b) = 0#64 := by rw [show a ^^^ f a = b ^^^ f b from h]; exact BitVec.xor_self
    rw [hf]
    apply BitVec.xor_eq_zero_iff.mp
    rw [← h']
    ac_rfl
  exact BitVec.xor_eq_zero_iff.mp ((Function.iterate_fixed hd m).symm.trans (hm _))

/-- `z ↦ z ^ (z >>> k)` is injective on 64-bit words for `3k ≥ 64` (`d = d >>> k` forces `d = d >>> 3k = 0`). -/
theorem xs_injective (k : Nat) (hk : 64 ≤ 3 * k) : Function.Injective (xs k) :=
  xor_self_injective (· >>> k) (fun _ _ => BitVec.ushiftRight_xor_distrib ..) 3 fun z => by
    show z >>> k >>> k >>> k = 0#64
    rw [← BitVec.shiftRight_add, ← BitVec.shiftRight_add]
    exact BitVec.ushiftRight_eq_zero (by omega)

/-- multiplication by a unit of `ℤ/2⁶⁴` is injective. -/
theorem mul_injective_of_inv {a b : W} (h : a * b = 1#64) : Function.Injective (· * a) := fun x y e => by
  have := congrArg (· * b) e
  simpa only [BitVec.mul_assoc, h, BitVec.mul_one] using this

theorem mul_M1_injective : Function.Injective (· * M1) :=
  mul_injective_of_inv (b := 0x96de1b173f119089#64) (by decide)

theorem mul_M2_injective : Function.Injective (· * M2) :=
  mul_injective_of_inv (b := 0x319642b2d24d8ec3#64) (by decide)

/-- the splitmix64 output function is a bijection of 64-bit words (here: injective). -/
theorem mix_injective : Function.Injective mix :=
  (xs_injective 31 (by decide)).comp <| mul_M2_injective.comp <| (xs_injective 27 (by decide)).comp <|
    mul_M1_injective.comp (xs_injective 30 (by decide))

/-- **different seeds give different generator states** (already the first state word differs). -/
theorem seedFromU64_injective : Function.Injective seedFromU64 := by
  intro a b h
  exact (BitVec.add_left_inj PHI).mp (mix_injective (congrArg Xo.s0 h))

/-- wrapping `seed + i (+ c)` is injective in the chain index `i < 2^64`. -/
theorem ofNat_add_injective (seed c : W) (i j : Nat) (hi : i < 2 ^ 64) (hj : j < 2 ^ 64)
    (h : seed + BitVec.ofNat 64 i + c = seed + BitVec.ofNat 64 j + c) : i = j := by
  have := congrArg BitVec.toNat ((BitVec.add_right_inj seed).mp ((BitVec.add_left_inj c).mp h))
  rwa [BitVec.toNat_ofNat, BitVec.toNat_ofNat, Nat.mod_eq_of_lt hi, Nat.mod_eq_of_lt hj] at this

/-- **distinct chains get distinct generator states**, for every seed incl. `u64::MAX` and wrapping offsets —
    MH acceptance generators, NUTS chains, Gibbs chains. -/
theorem chain_seed_injective (seed : W) (i j : Nat) (hi : i < 2 ^ 64) (hj : j < 2 ^ 64) (hij : i ≠ j) :
    seedFromU64 (mhAcceptSeed seed i) ≠ seedFromU64 (mhAcceptSeed seed j)
    ∧ seedFromU64 (nutsSeed seed i) ≠ seedFromU64 (nutsSeed seed j)
    ∧ seedFromU64 (gibbsSeed seed i) ≠ seedFromU64 (gibbsSeed seed j) :=
  ⟨fun h => hij (ofNat_add_injective seed 1#64 i j hi hj (seedFromU64_injective h)),
    fun h => hij (ofNat_add_injective seed 1#64 i j hi hj (seedFromU64_injective h)),
    fun h => hij (ofNat_add_injective seed 0#64 i j hi hj (by
      rw [BitVec.add_zero, BitVec.add_zero]; exact seedFromU64_injective h))⟩

/-- **every `f64` uniform variate lies in `[0, 1)`** — in fact in `[0, 1 - 2⁻⁵³]` — whatever word the generator
    produced (this is the hypothesis "uniforms lie in [0,1)" of the C03 / C16 theorems). -/
theorem unif53_lt (w : W) : unif53 w < 2 ^ 53 := BitVec.toNat_ushiftRight_lt w 11 (by decide)

theorem unif24_lt (w : W) : unif24 w < 2 ^ 24 := BitVec.toNat_ushiftRight_lt w 40 (by decide)

/-- a `b`-bit numerator scaled by `2⁻ᵇ` lies in `[0, 1 - 2⁻ᵇ]`. -/
theorem unit_of_lt {n b : Nat} (h : n < 2 ^ b) : (0 : ℚ) ≤ (n : ℚ) / 2 ^ b ∧ (n : ℚ) / 2 ^ b ≤ 1 - 1 / 2 ^ b := by
  have hp : (0 : ℚ) < 2 ^ b := by positivity
  refine ⟨by positivity, ?_⟩
  rw [le_sub_iff_add_le, ← add_div, div_le_one hp]
  exact_mod_cast Nat.succ_le_of_lt h

/-- as rationals: `0 ≤ u ≤ 1 - 2⁻⁵³ < 1` -/
theorem unif53_unit (w : W) : (0 : ℚ) ≤ (unif53 w : ℚ) / 2 ^ 53 ∧ (unif53 w : ℚ) / 2 ^ 53 ≤ 1 - 1 / 2 ^ 53 :=
  unit_of_lt (unif53_lt w)

theorem unif24_unit (w : W) : (0 : ℚ) ≤ (unif24 w : ℚ) / 2 ^ 24 ∧ (unif24 w : ℚ) / 2 ^ 24 ≤ 1 - 1 / 2 ^ 24 :=
  unit_of_lt (unif24_lt w)

/-- every 53-bit numerator is hit: the crafted word `k <<< 11` used by the harnesses to inject `u = k·2⁻⁵³` -/
theorem unif53_surj (k : Nat) (hk : k < 2 ^ 53) : unif53 (BitVec.ofNat 64 (k * 2 ^ 11)) = k := by
  have h : k * 2 ^ 11 < 2 ^ 64 := Nat.mul_lt_mul_of_pos_right hk (by decide)
  rw [unif53, BitVec.toNat_ushiftRight, Nat.shiftRight_eq_div_pow, BitVec.toNat_ofNat, Nat.mod_eq_of_lt h,
    Nat.mul_div_cancel k (by decide)]

/-! non-vacuity / known-answer: the model reproduces rand's documented stream for seed 0 -/
example : (seedFromU64 0#64).s0 = 0xe220a8397b1dcdaf#64 := by decide

end MiniMcmcVerif.Seeds
