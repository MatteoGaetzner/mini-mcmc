import MiniMcmcVerif.Props.C12
import MiniMcmcVerif.Props.C11

/-!
# C12 — ESS is invariant under affine rescaling of the parameter, permutation of the chains and time reversal
-/

set_option linter.unusedSectionVars false
set_option linter.unusedVariables false

namespace MiniMcmcVerif.Stats

/-- a map that `op` turns into `g` commutes with `zipWith op` -/
theorem zipWith_map_map {β : Type} {op : β → β → β} {f g : β → β} (h : ∀ x y, op (f x) (f y) = g (op x y))
    (l l' : List β) :
    List.zipWith op (l.map f) (l'.map f) = (List.zipWith op l l').map g := by
  rw [List.zipWith_map_left, List.zipWith_map_right, List.map_zipWith]
  simp only [h]

/-! ### `essWith` factored: chain sums of the autocovariances, then `ρ` pointwise, then everything downstream of `ρ` -/

section factored
variable {α : Type} [Add α] [Sub α] [Mul α] [Div α] [NatCast α] [OfNat α 0] [LT α] [DecidableLT α] [LE α] [DecidableLE α]

/-- the elementwise sum of the rows `as`, cut to length `n`: `essWith`'s fold, whose `.map (· / c)` is
    `chain_rho.mean_axis(Axis(0))` -/
def chainSum (n : Nat) (as : List (List α)) : List α :=
  as.foldl (fun acc a => List.zipWith (· + ·) acc a) (List.replicate n 0)

/-- the autocorrelation estimate `ρ_t = 1 - (W - s_t/c)/var⁺` as the code computes it from the chain sums `s` -/
def rhoOf (s : List α) (c : Nat) (w v : α) : List α :=
  (s.map (· / (c : α))).map fun a => (0 - ((0 - a + w) / v)) + ((1 : Nat) : α)

/-- everything downstream of `ρ` -/
def essFromRho (rho : List α) (c n : Nat) : List α × α × α :=
  let ps := pairSums rho
  let mn0 : α := if 2 ≤ rho.length then rho.getD 0 0 + rho.getD 1 0 else 0
  let out := geyer ps mn0 0
  let tau := (0 - ((1 : Nat) : α)) + ((2 : Nat) : α) * out
  (rho, tau, (((1 : Nat) : α) / tau) * (c : α) * (n : α))

theorem essWith_eq (acov : List α → List α) (data : List (List α)) (w v : α) :
    essWith acov data w v
      = essFromRho (rhoOf (chainSum (data.headD []).length (data.map acov)) data.length w v) data.length
          (data.headD []).length := rfl

/-- `essWith` sees the rows only through their autocovariances, their number and the length of the first
    (on every carrier, floats included) -/
theorem essWith_map {f : List α → List α} (hf : ∀ r, (f r).length = r.length) {acov acov' : List α → List α}
    {data : List (List α)} (h : ∀ r ∈ data, acov (f r) = acov' r) (w v : α) :
    essWith acov (data.map f) w v = essWith acov' data w v := by
  have hac : (data.map f).map acov = data.map acov' := by rw [List.map_map]; exact List.map_congr_left h
  rw [essWith_eq, essWith_eq, hac, headD_length_map hf, List.length_map]

end factored

section field
variable {α : Type} [Field α]

theorem chainSum_scale (k : α) (n : Nat) (as : List (List α)) :
    chainSum n (as.map (List.map (k * ·))) = (chainSum n as).map (k * ·) := by
  unfold chainSum
  -- `map (k * ·)` is a homomorphism for `zipWith (· + ·)` and fixes the zero row
  rw [List.foldl_map, ← List.foldl_hom (List.map (k * ·)) (g₂ := fun acc a => List.zipWith (· + ·) acc (a.map (k * ·)))
    fun _ _ => zipWith_map_map (fun x y => (mul_add k x y).symm) .., List.map_replicate, mul_zero]

/-- the chain sum does not depend on the order of the chains -/
theorem chainSum_perm {as bs : List (List α)} (h : as.Perm bs) (n : Nat) : chainSum n as = chainSum n bs := by
  have : RightCommutative (fun (acc a : List α) => List.zipWith (· + ·) acc a) := ⟨fun acc a b => by
    apply List.ext_getElem
    · simp only [List.length_zipWith, min_right_comm]
    · intro i h1 h2
      simp only [List.getElem_zipWith]
      exact add_right_comm ..⟩
  exact h.foldl_eq _

theorem rhoOf_scale (s : List α) (c : Nat) (w v : α) {k : α} (hk : k ≠ 0) :
    rhoOf (s.map (k * ·)) c (k * w) (k * v) = rhoOf s c w v := by
  unfold rhoOf
  rw [List.map_map, List.map_map, List.map_map]
  refine List.map_congr_left fun x _ => ?_
  simp only [Function.comp]
  rw [← mul_div_mul_left _ v hk, mul_add, mul_sub, mul_zero, mul_div_assoc]

end field

variable {α : Type} [Field α] [LinearOrder α] [IsStrictOrderedRing α]

/-- scaling the autocovariances, `W` and `var⁺` by a common factor `k ≠ 0` changes neither `ρ` nor `τ` nor the ESS -/
theorem essWith_scale (acov : List α → List α) (data : List (List α)) (w v k : α) (hk : k ≠ 0) :
    essWith (fun r => (acov r).map (k * ·)) data (k * w) (k * v) = essWith acov data w v := by
  have hac : data.map (fun r => (acov r).map (k * ·)) = (data.map acov).map (List.map (k * ·)) :=
    (List.map_map ..).symm
  rw [essWith_eq, essWith_eq, hac, chainSum_scale, rhoOf_scale _ _ _ _ hk]

/-! ### affine maps of the parameter -/

theorem centre_affine (xs : List α) (a b : α) (hne : xs ≠ []) :
    centre (xs.map fun x => a * x + b) = (centre xs).map (a * ·) := by
  unfold centre
  simp only [mean_affine xs a b hne, List.map_map, Function.comp_def]
  exact List.map_congr_left fun x _ => by ring

/-- the autocovariance scales by `a²` -/
theorem autocovBF_affine (xs : List α) (a b : α) (hne : xs ≠ []) :
    autocovBF (xs.map fun x => a * x + b) = (autocovBF xs).map (a ^ 2 * ·) := by
  unfold autocovBF
  simp only [List.length_map, centre_affine xs a b hne, List.map_map, Function.comp_def]
  refine List.map_congr_left fun lag _ => ?_
  rw [← List.map_drop, zipWith_map_map (g := (a ^ 2 * ·)) (fun x y => by ring), sum_map_mul_const, mul_div_assoc]

/-- **ESS (with its ρ and τ) is invariant under `x ↦ a·x + b`, `a ≠ 0`**, when `W` and `var⁺` are scaled accordingly
    (which `withinVar_affine` shows they are). -/
theorem essWith_affine (data : List (List α)) (w v a b : α) (ha : a ≠ 0) (hrows : ∀ r ∈ data, r ≠ []) :
    essWith autocovBF (data.map fun r => r.map fun x => a * x + b) (a ^ 2 * w) (a ^ 2 * v)
      = essWith autocovBF data w v := by
  rw [essWith_map (fun _ => List.length_map _) fun r hr => autocovBF_affine r a b (hrows r hr)]
  exact essWith_scale autocovBF data w v _ (pow_ne_zero 2 ha)

/-- `splitcat` commutes with a map applied to every draw -/
theorem splitcat_map {β γ : Type} (g : β → γ) (s : List (List β)) :
    splitcat (s.map (List.map g)) = (splitcat s).map (List.map g) := by
  simp only [splitcat, headD_length_map (fun _ => List.length_map g), List.map_append, List.map_map,
    Function.comp_def, List.map_take, List.map_drop, List.length_map]

/-- **`split_rhat_mean_ess` is invariant under affine rescaling** (both R-hat² and ESS), any number of chains. -/
theorem splitRhatSqEss_affine (chains : List (List α)) (a b : α) (ha : a ≠ 0) (n : Nat) (hn : 2 ≤ n)
    (hlen : ∀ ch ∈ chains, ch.length = n) (hne : chains ≠ []) :
    splitRhatSqEss autocovBF (chains.map fun r => r.map fun x => a * x + b) = splitRhatSqEss autocovBF chains := by
  obtain ⟨-, hcount, hrowlen⟩ := splitcat_spec chains n hlen hne
  have hrows : ∀ r ∈ splitcat chains, r ≠ [] := fun r hr =>
    List.ne_nil_of_length_pos (hrowlen r hr ▸ Nat.div_pos hn two_pos)
  have hsne : splitcat chains ≠ [] :=
    List.ne_nil_of_length_pos (hcount ▸ Nat.mul_pos two_pos (List.length_pos_iff.mpr hne))
  unfold splitRhatSqEss
  simp only [splitcat_map]
  rw [withinVar_affine _ a b hrows hsne, essWith_affine _ _ _ a b ha hrows, mul_div_mul_left _ _ (pow_ne_zero 2 ha)]

/-! ### chain permutation -/

/-- **ESS is invariant under permutation of the (half-)chains** (all of one length). -/
theorem essWith_chain_perm (acov : List α → List α) (d₁ d₂ : List (List α)) (h : d₁.Perm d₂) (w v : α) (n : Nat)
    (hlen : ∀ r ∈ d₁, r.length = n) (hne : d₁ ≠ []) :
    essWith acov d₁ w v = essWith acov d₂ w v := by
  rw [essWith_eq, essWith_eq, chainSum_perm (h.map acov), h.length_eq, headD_length hlen hne,
    headD_length_of_perm h hlen hne]

/-! ### time reversal -/

theorem centre_reverse (xs : List α) : centre xs.reverse = (centre xs).reverse := by
  unfold centre
  rw [mean_perm (List.reverse_perm xs), List.map_reverse]

theorem sum_reverse' (l : List α) : sum l.reverse = sum l := by
  rw [sum_eq, sum_eq, List.sum_reverse]

/-- `zipWith` reads only as much of its first argument as the second is long -/
theorem zipWith_take_left {β γ δ : Type} (f : β → γ → δ) (l : List β) (l' : List γ) :
    List.zipWith f (l.take l'.length) l' = List.zipWith f l l' := by
  have h := List.take_zipWith (f := f) (l := l) (l' := l') (i := l'.length)
  rwa [List.take_length, List.take_of_length_le (by rw [List.length_zipWith]; exact min_le_right ..), eq_comm] at h

/-- the lag-`k` product sum of a sequence equals that of the reversed sequence -/
theorem lagsum_reverse (c : List α) (lag : Nat) (hlag : lag ≤ c.length) :
    sum (List.zipWith (· * ·) c.reverse (c.reverse.drop lag)) = sum (List.zipWith (· * ·) c (c.drop lag)) := by
  -- the products pair `c.take (n - lag)` with `c.drop lag`; reversed, these are `c.reverse.drop lag` and
  -- `c.reverse.take (n - lag)`
  have hlen : (c.take (c.length - lag)).length = (c.drop lag).length := by
    rw [List.length_take, List.length_drop, Nat.min_eq_left (Nat.sub_le ..)]
  rw [← zipWith_take_left _ c, ← zipWith_take_left _ c.reverse, ← sum_reverse' (List.zipWith _ (c.take _) _),
    List.length_drop, List.length_drop, List.length_reverse, List.reverse_zipWith hlen, List.reverse_take,
    List.reverse_drop, Nat.sub_sub_self hlag, List.zipWith_comm_of_comm mul_comm]

/-- **the autocovariance of a time-reversed sequence is the same** -/
theorem autocovBF_reverse (xs : List α) : autocovBF xs.reverse = autocovBF xs := by
  unfold autocovBF
  simp only [List.length_reverse, centre_reverse]
  exact List.map_congr_left fun lag hlag => by
    rw [lagsum_reverse (centre xs) lag ((List.mem_range.mp hlag).le.trans (length_centre xs).ge)]

/-- **ESS is invariant under time reversal of every (half-)chain**, `W` and `var⁺` being unchanged (they are
    permutation-invariant within a chain). -/
theorem essWith_time_reversal (data : List (List α)) (w v : α) :
    essWith autocovBF (data.map List.reverse) w v = essWith autocovBF data w v :=
  essWith_map (fun _ => List.length_reverse) (fun r _ => autocovBF_reverse r) w v

end MiniMcmcVerif.Stats
