import MiniMcmcVerif.Props.C05Invariance
import Mathlib.Algebra.BigOperators.Fin
import Mathlib.Tactic.NormNum
import Mathlib.Tactic.FinCases

/-!
# C05 — why "conditioning on the freshest state" matters

The variant of the sweep that hands every coordinate's conditional the *snapshot* taken at the start of the step
(coordinates refreshed in parallel from the old state) does **not** leave the joint invariant: an explicit 2×2 witness.
So `gibbs_sweep_invariant` really depends on what `gibbs_call_log` establishes for the code.
-/

namespace MiniMcmcVerif.Gibbs

open Finset

variable {d : Nat} {ι : Type} [Fintype ι] [DecidableEq ι]
variable {K : Type} [Field K] [LinearOrder K] [IsStrictOrderedRing K]

/-- every coordinate `i` is redrawn from its full conditional given the *old* state `x` -/
def staleKernel (π : (Fin d → ι) → K) (x y : Fin d → ι) : K :=
  ∏ i, π (Function.update x i (y i)) / margin π i x

/-- two positively correlated bits: weight 4 on the diagonal, 1 off it -/
def corr2 : (Fin 2 → Fin 2) → ℚ := fun x => if x 0 = x 1 then 4 else 1

/-- **the stale-snapshot sweep does not leave the joint invariant** (mass 76/25 instead of 4 arrives at `(0,0)`),
    while the real sweep does (`gibbs_sweep_invariant`, here for the order `[0, 1]`). -/
theorem stale_not_invariant :
    (∑ x, corr2 x * staleKernel corr2 x ![0, 0]) ≠ corr2 ![0, 0]
    ∧ (∑ x, corr2 x * sweepKernel corr2 [0, 1] x ![0, 0]) = corr2 ![0, 0] := by
  refine ⟨by decide +kernel, gibbs_sweep_invariant corr2 (fun x => ?_) [0, 1] _⟩
  unfold corr2; split <;> norm_num

end MiniMcmcVerif.Gibbs
