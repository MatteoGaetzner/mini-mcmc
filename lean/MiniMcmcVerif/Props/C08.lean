import MiniMcmcVerif.Model.Seeds
import MiniMcmcVerif.Model.Init
import MiniMcmcVerif.Props.C07
import MiniMcmcVerif.Props.C18

/-!
# C08 — chains of one sampler are driven by distinct random streams
-/

namespace MiniMcmcVerif.Seeds

theorem proposalSeed_eq (seed : W) (j : Nat) :
    mhProposalSeed seed j = seed + BitVec.ofNat 64 (j + 2 ^ 63) + 1#64 := by
  unfold mhProposalSeed mhAcceptSeed
  have h : (1#64 <<< 63 : W) = BitVec.ofNat 64 (2 ^ 63) := by decide
  rw [h, BitVec.ofNat_add]
  ac_rfl

/-- **Metropolis–Hastings, seeded**: for up to `2^63` chains and every seed, the `2n` generators of the sampler
    (one acceptance and one proposal generator per chain) are seeded pairwise differently — in particular no two
    chains share a proposal stream or an acceptance stream, and within a chain the two are never seeded identically. -/
theorem mh_chain_streams_distinct (seed : W) (i j : Nat) (hi : i < 2 ^ 63) (hj : j < 2 ^ 63) :
    (i ≠ j → seedFromU64 (mhAcceptSeed seed i) ≠ seedFromU64 (mhAcceptSeed seed j))
    ∧ (i ≠ j → seedFromU64 (mhProposalSeed seed i) ≠ seedFromU64 (mhProposalSeed seed j))
    ∧ seedFromU64 (mhAcceptSeed seed i) ≠ seedFromU64 (mhProposalSeed seed j) := by
  have hi' : i < 2 ^ 64 := Nat.lt_trans hi (by decide)
  have hj' : j < 2 ^ 64 := Nat.lt_trans hj (by decide)
  refine ⟨fun hij => (chain_seed_injective seed i j hi' hj' hij).1, fun hij h => ?_, fun h => ?_⟩
  · -- the proposal seeds are the acceptance seeds plus one constant
    exact hij (ofNat_add_injective seed 1#64 i j hi' hj' ((BitVec.add_left_inj _).mp (seedFromU64_injective h)))
  · -- `seed + i + 1 = seed + (j + 2⁶³) + 1` with both offsets below `2⁶⁴`
    have h := seedFromU64_injective h
    rw [proposalSeed_eq] at h
    have := ofNat_add_injective seed 1#64 i _ hi' (by omega) h
    omega

/-- within one chain the acceptance generator and the proposal generator are never seeded identically. -/
theorem mh_accept_ne_proposal (seed : W) (i : Nat) (hi : i < 2 ^ 63) :
    seedFromU64 (mhAcceptSeed seed i) ≠ seedFromU64 (mhProposalSeed seed i) :=
  (mh_chain_streams_distinct seed i i hi hi).2.2

/-- **NUTS**: chain `i` is seeded `seed + i + 1`; distinct chains get distinct generator states. -/
theorem nuts_chain_seeds_distinct (seed : W) (i j : Nat) (hi : i < 2 ^ 64) (hj : j < 2 ^ 64) (hij : i ≠ j) :
    seedFromU64 (nutsSeed seed i) ≠ seedFromU64 (nutsSeed seed j) :=
  (chain_seed_injective seed i j hi hj hij).2.1

/-- rotation is injective at every width: bit `i` of `z` is bit `i + r` of `z.rotateLeft r` for `i < w - r`, and bit
    `i - (w - r)` otherwise. -/
theorem rotateLeft_injective {w r : Nat} (hr : r < w) : Function.Injective fun z : BitVec w => z.rotateLeft r := by
  intro a b h
  apply BitVec.eq_of_getLsbD_eq
  intro i hi
  by_cases hc : i < w - r
  · have h1 := congrArg (·.getLsbD (i + r)) h
    simp only [BitVec.getLsbD_rotateLeft_of_le hr, (Nat.not_lt.mpr (Nat.le_add_left r i) : ¬i + r < r), decide_false,
      cond_false, (Nat.add_lt_of_lt_sub hc : i + r < w), decide_true, Bool.true_and, Nat.add_sub_cancel] at h1
    exact h1
  · have h1 := congrArg (·.getLsbD (i - (w - r))) h
    simp only [BitVec.getLsbD_rotateLeft_of_le hr, show i - (w - r) < r by omega, decide_true, cond_true,
      (Nat.add_sub_cancel' (Nat.le_of_not_lt hc) : w - r + (i - (w - r)) = i)] at h1
    exact h1

theorem rotl45_injective : Function.Injective (fun z : W => z.rotateLeft 45) := rotateLeft_injective (by decide)

/-- `z ↦ z ^ (z <<< k)` is injective for `4k ≥ 64` (`d = d <<< k` forces `d = d <<< 4k = 0`). -/
theorem xsl_injective (k : Nat) (hk : 64 ≤ 4 * k) : Function.Injective (fun z : W => z ^^^ (z <<< k)) :=
  xor_self_injective (· <<< k) (fun _ _ => BitVec.shiftLeft_xor_distrib ..) 4 fun z => by
    show z <<< k <<< k <<< k <<< k = 0#64
    rw [← BitVec.shiftLeft_add, ← BitVec.shiftLeft_add, ← BitVec.shiftLeft_add]
    exact BitVec.shiftLeft_eq_zero (by omega)

/-- the xoshiro256++ state transition is a bijection of the state space, hence injective: two generators in different
    states are in different states after the step. -/
theorem next_state_injective (x y : Xo) (h : x.next.2 = y.next.2) : x = y := by
  obtain ⟨a0, a1, a2, a3⟩ := x
  obtain ⟨b0, b1, b2, b3⟩ := y
  simp only [Xo.next, Xo.mk.injEq] at h
  obtain ⟨h0, h1, h2, h3⟩ := h
  -- new `s1 ^ s2` is `s1 ^ (s1 <<< 17)`: the old `s2 ^ s0` cancels
  obtain rfl : a1 = b1 := by
    have l (p q r : W) : p ^^^ r = (p ^^^ q) ^^^ (q ^^^ r) := by
      rw [BitVec.xor_assoc, ← BitVec.xor_assoc q, BitVec.xor_self, BitVec.zero_xor]
    apply xsl_injective 17 (by decide)
    show a1 ^^^ a1 <<< 17 = b1 ^^^ b1 <<< 17
    rw [l a1 (a2 ^^^ a0), l b1 (b2 ^^^ b0), h1, h2]
  -- then `s3` from new `s3 = rotl (s3 ^ s1)`, `s0` from new `s0 = s0 ^ (s3 ^ s1)`, `s2` from new `s1 = s1 ^ (s2 ^ s0)`
  obtain rfl : a3 = b3 := (BitVec.xor_left_inj _).mp (rotl45_injective h3)
  obtain rfl : a0 = b0 := (BitVec.xor_left_inj _).mp h0
  obtain rfl : a2 = b2 := (BitVec.xor_left_inj _).mp ((BitVec.xor_right_inj _).mp h1)
  rfl

/-- **streams never merge**: generators started in different states are in different states after any number of draws. -/
theorem iter_injective (n : Nat) (x y : Xo) (h : Xo.iter n x = Xo.iter n y) : x = y := by
  induction n generalizing x y with
  | zero => exact h
  | succ n ih => exact next_state_injective x y (ih _ _ h)

/-- NUTS / MH acceptance chains `i ≠ j`: after any number `n` of draws the two generators are still in different states. -/
theorem nuts_chains_never_merge (seed : W) (i j : Nat) (hi : i < 2 ^ 64) (hj : j < 2 ^ 64) (hij : i ≠ j) (n : Nat) :
    Xo.iter n (seedFromU64 (nutsSeed seed i)) ≠ Xo.iter n (seedFromU64 (nutsSeed seed j)) :=
  fun h => nuts_chain_seeds_distinct seed i j hi hj hij (iter_injective n _ _ h)

theorem mh_streams_never_merge (seed : W) (i j : Nat) (hi : i < 2 ^ 63) (hj : j < 2 ^ 63) (n : Nat) :
    Xo.iter n (seedFromU64 (mhAcceptSeed seed i)) ≠ Xo.iter n (seedFromU64 (mhProposalSeed seed j)) :=
  fun h => (mh_chain_streams_distinct seed i j hi hj).2.2 (iter_injective n _ _ h)

end MiniMcmcVerif.Seeds

namespace MiniMcmcVerif.Init

variable {α : Type}

/-- **HMC**: the momenta of a batch are `n` consecutive rows of `d` variates of one stream: row `i` uses stream
    positions `i·d … i·d+d-1`, so different chains use disjoint segments; the acceptance variates come after all of them. -/
theorem hmc_rows_disjoint_segments (n d : Nat) (s : List α) (i j : Nat) (hi : i < n) (hj : j < n) (hij : i < j) :
    (initRows n d s)[i]'(by rw [init_length]; exact hi) = (s.drop (i * d)).take d
    ∧ (initRows n d s)[j]'(by rw [init_length]; exact hj) = (s.drop (j * d)).take d
    ∧ i * d + d ≤ j * d ∧ j * d + d ≤ n * d := by
  exact ⟨init_row n d s i hi, init_row n d s j hj,
    Nat.succ_mul i d ▸ Nat.mul_le_mul_right d hij, Nat.succ_mul j d ▸ Nat.mul_le_mul_right d hj⟩

end MiniMcmcVerif.Init
