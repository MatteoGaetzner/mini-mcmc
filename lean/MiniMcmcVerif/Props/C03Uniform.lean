import MiniMcmcVerif.Props.C03
import MiniMcmcVerif.Props.C03Transition

/-!
# C03 — the candidate of a subtree is drawn uniformly among its slice-admissible points

The structure of a subtree (visited points, counts, stop flag, ends) does not depend on the selection uniforms; only
`prime` does, through the rule "take the second half's candidate iff `u < n''/max(n'+n'',1)`". Under a uniform
`u ∈ [0,1)` that event has probability `r = n''/max(n'+n'',1)` (`accept_region`-style: `{u ∈ [0,1) | u < r}` has length
`r` for `r ∈ [0,1]`). `primeWeight` is the resulting probability of each visited point (by position) to be the
candidate; `selection_uniform` shows it is `1/n'` on admissible points and `0` elsewhere.
-/

set_option linter.unusedSectionVars false
set_option linter.unusedVariables false

namespace MiniMcmcVerif.NUTS

variable {K V : Type} [Field K] [LinearOrder K] [IsStrictOrderedRing K] [HasExp K] [Add V] [Sub V] [SMul K V]
variable (target : V → K × V) (dot : V → V → K) (logu : K) (dirNeg : Bool) (eps joint0 : K)

/-- everything but the candidate -/
def skeleton (t : Tree K V) : Pt K V × Pt K V × Nat × Bool × K × Nat × List (Pt K V) :=
  (t.minus, t.plus, t.n, t.s, t.alpha, t.nalpha, t.leaves)

/-- the skeleton of a merge is determined by the skeletons of the halves -/
theorem skeleton_merge_congr (t1 t2 t1' t2' : Tree K V) (u u' : K) (h1 : skeleton t1 = skeleton t1')
    (h2 : skeleton t2 = skeleton t2') :
    skeleton (Gen.mergeTrees dot dirNeg t1 t2 u) = skeleton (Gen.mergeTrees dot dirNeg t1' t2' u') := by
  simp only [skeleton, Prod.mk.injEq] at h1 h2
  obtain ⟨hm, hp, hn, hs, ha, hna, hl⟩ := h1
  obtain ⟨hm2, hp2, hn2, hs2, ha2, hna2, hl2⟩ := h2
  simp only [skeleton, Gen.mergeTrees, hm, hp, hn, ha, hna, hl, hm2, hp2, hn2, hs2, ha2, hna2, hl2]

/-- the outer end is part of the skeleton -/
theorem startOf_congr {t t' : Tree K V} (h : skeleton t = skeleton t') : Gen.startOf dirNeg t = Gen.startOf dirNeg t' := by
  cases dirNeg
  · exact congrArg (·.2.1) h
  · exact congrArg (·.1) h

/-- **the tree's structure does not depend on the selection uniforms** -/
theorem skeleton_indep_sel (j : Nat) (z : Pt K V) (sel sel' : List K) :
    skeleton (buildTree target dot logu dirNeg eps joint0 j z sel).1
      = skeleton (buildTree target dot logu dirNeg eps joint0 j z sel').1 := by
  refine Gen.buildTree_induct target dot logu dirNeg eps joint0
    (P := fun j z _ r => ∀ sel', skeleton r.1 = skeleton (buildTree target dot logu dirNeg eps joint0 j z sel').1)
    (fun _ _ _ => rfl) ?_ j z sel ?_ sel'
  -- the stop flag is part of the skeleton, so the run on `sel'` takes the same branch
  · intro j z sel r1 r2 _ _ hs ih1 ih2 sel'
    rw [Gen.bt_go rfl rfl ((congrArg (·.2.2.2.1) (ih1 sel')).symm.trans hs)]
    exact skeleton_merge_congr dot dirNeg _ _ _ _ _ _ (ih1 sel') (startOf_congr dirNeg (ih1 sel') ▸ ih2 _)
  · intro j z sel r _ hs ih sel'
    rw [Gen.bt_stop ((congrArg (·.2.2.2.1) (ih sel')).symm.trans hs)]
    exact ih sel'

/-- probability that the `k`-th visited point of the subtree is its candidate, under i.i.d. uniform selection draws
    (defined from the structure, which is independent of the draws). -/
def primeWeight : Nat → Pt K V → Nat → K
  | 0, _, k => if k = 0 then 1 else 0
  | j + 1, z, k =>
    let t1 := (buildTree target dot logu dirNeg eps joint0 j z []).1
    if t1.s then
      let t2 := (buildTree target dot logu dirNeg eps joint0 j (startOf dirNeg t1) []).1
      let r : K := ((t2.n : Nat) : K) / ((max (t1.n + t2.n) 1 : Nat) : K)
      if k < t1.leaves.length then (1 - r) * primeWeight j z k
      else r * primeWeight j (startOf dirNeg t1) (k - t1.leaves.length)
    else primeWeight j z k

/-- with `r = n₂ / max (n₁ + n₂) 1` the first half keeps the share `n₁` of `n₁ + n₂`, the second gets `n₂` (also when
    both are `0`) -/
theorem share_mul (n1 n2 : Nat) :
    (1 - ((n2 : Nat) : K) / ((max (n1 + n2) 1 : Nat) : K)) * ((n1 + n2 : Nat) : K) = n1
    ∧ ((n2 : Nat) : K) / ((max (n1 + n2) 1 : Nat) : K) * ((n1 + n2 : Nat) : K) = n2 := by
  have e2 : ((n2 : Nat) : K) / ((max (n1 + n2) 1 : Nat) : K) * ((n1 + n2 : Nat) : K) = n2 := by
    rcases Nat.eq_zero_or_pos n2 with rfl | h2
    · rw [Nat.cast_zero, zero_div, zero_mul]
    · have hpos : 0 < n1 + n2 := Nat.add_pos_right n1 h2
      rw [Nat.max_eq_left hpos, div_mul_cancel₀ _ (Nat.cast_ne_zero.mpr hpos.ne')]
  exact ⟨by rw [sub_mul, one_mul, e2, Nat.cast_add, add_sub_cancel_right], e2⟩

section
variable {target dot logu dirNeg eps joint0}

/-- `primeWeight` unfolds along `Gen.bt_stop` and `Gen.bt_go` on the empty stream -/
theorem primeWeight_stop {j : Nat} {z : Pt K V} {k : Nat} {t : Tree K V}
    (h1 : (buildTree target dot logu dirNeg eps joint0 j z []).1 = t) (h : t.s = false) :
    primeWeight target dot logu dirNeg eps joint0 (j + 1) z k = primeWeight target dot logu dirNeg eps joint0 j z k :=
  if_neg (ne_true_of_eq_false (h1 ▸ h))

theorem primeWeight_go {j : Nat} {z : Pt K V} {k : Nat} {t1 t2 : Tree K V}
    (h1 : (buildTree target dot logu dirNeg eps joint0 j z []).1 = t1)
    (h2 : (buildTree target dot logu dirNeg eps joint0 j (startOf dirNeg t1) []).1 = t2) (h : t1.s = true) :
    primeWeight target dot logu dirNeg eps joint0 (j + 1) z k
      = if k < t1.leaves.length then
          (1 - ((t2.n : Nat) : K) / ((max (t1.n + t2.n) 1 : Nat) : K)) * primeWeight target dot logu dirNeg eps joint0 j z k
        else ((t2.n : Nat) : K) / ((max (t1.n + t2.n) 1 : Nat) : K)
          * primeWeight target dot logu dirNeg eps joint0 j (startOf dirNeg t1) (k - t1.leaves.length) := by
  subst h1 h2
  exact if_pos h

end

/-- `primeWeight` in multiplied form, which needs no case distinction on `n'`: the weight of the `k`-th visited point times
    `n'` is `1` if the point is admissible and `0` if not (in a subtree without admissible points both sides vanish). -/
theorem primeWeight_mul (j : Nat) (z : Pt K V) (k : Nat) (p : Pt K V)
    (hk : (buildTree target dot logu dirNeg eps joint0 j z []).1.leaves[k]? = some p) :
    primeWeight target dot logu dirNeg eps joint0 j z k * (((buildTree target dot logu dirNeg eps joint0 j z []).1.n : Nat) : K)
      = if Adm dot logu p then 1 else 0 := by
  refine (Gen.buildTree_induct target dot logu dirNeg eps joint0
    (P := fun j z sel r => sel = [] → ∀ k p, r.1.leaves[k]? = some p →
      primeWeight target dot logu dirNeg eps joint0 j z k * ((r.1.n : Nat) : K) = if Adm dot logu p then 1 else 0)
    ?_ ?_ j z [] ?_) rfl k p hk
  · -- a leaf: one point, of weight `1`, counted iff admissible
    rintro z _ - k p hk
    cases k with
    | zero =>
      obtain rfl := Option.some.inj hk
      show (1 : K) * ((if logu < _ then 1 else 0 : Nat) : K) = if logu < _ then 1 else 0
      rw [one_mul, Nat.cast_ite, Nat.cast_one, Nat.cast_zero]
    | succ k => cases hk
  · rintro j z _ r1 r2 h1 h2 hs ih1 ih2 rfl k p hk
    -- the first half hands back the empty stream, so the second half is the one `primeWeight` looks at
    have hnil : r1.2 = [] := Gen.buildTree_sel_nil h1
    rw [hnil] at h2
    rw [primeWeight_go (congrArg Prod.fst h1) (congrArg Prod.fst h2) hs]
    obtain ⟨e1, e2⟩ := share_mul (K := K) r1.1.n r2.1.n
    change (r1.1.leaves ++ r2.1.leaves)[k]? = some p at hk
    show _ * ((r1.1.n + r2.1.n : Nat) : K) = _
    split
    · rw [List.getElem?_append_left ‹_›] at hk
      rw [mul_right_comm, e1, mul_comm]
      exact ih1 rfl k p hk
    · rw [List.getElem?_append_right (Nat.le_of_not_lt ‹_›)] at hk
      rw [mul_right_comm, e2, mul_comm]
      exact ih2 hnil _ p hk
  · rintro j z _ r h1 hs ih rfl k p hk
    rw [primeWeight_stop (congrArg Prod.fst h1) hs]
    exact ih rfl k p hk

/-- **uniform selection**: in a subtree containing `n' > 0` admissible points, every admissible visited point is the
    candidate with probability exactly `1/n'`, every inadmissible one with probability `0`. -/
theorem selection_uniform (j : Nat) (z : Pt K V) (k : Nat) (p : Pt K V)
    (hk : (buildTree target dot logu dirNeg eps joint0 j z []).1.leaves[k]? = some p)
    (hn : 0 < (buildTree target dot logu dirNeg eps joint0 j z []).1.n) :
    primeWeight target dot logu dirNeg eps joint0 j z k
      = if Adm dot logu p then 1 / (((buildTree target dot logu dirNeg eps joint0 j z []).1.n : Nat) : K) else 0 := by
  rw [eq_div_of_mul_eq (Nat.cast_ne_zero.mpr hn.ne') (primeWeight_mul target dot logu dirNeg eps joint0 j z k p hk),
    ite_div, zero_div]

end MiniMcmcVerif.NUTS
