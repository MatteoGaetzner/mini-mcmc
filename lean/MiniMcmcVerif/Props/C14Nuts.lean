import MiniMcmcVerif.Props.C03Transition
import MiniMcmcVerif.Props.C14

/-!
# C14 / C03 — the whole NUTS transition for float-like carriers

`transition_next_state` (Props/C03Transition.lean) is stated over an ordered field, but the order and the field enter
only through three facts about the selection / accept uniforms `u` (`Gen.UnifLaws`, Props/NutsTree.lean):

* `h0 : u` is never `< 0/n`  (`n ≥ 1`),
* `h1 : u < n/n`             (`n ≥ 1`),
* `h2 : u` is never `< minOne (0/n)` (`n ≥ 1`),

which hold for reals in `[0,1)` (`Gen.unifLaws_field`) *and* for IEEE floats in `[0,1)` (`0/n = +0`, `n/n = 1` exactly).
`Gen.transition_next_state` is the transition theorem for an **arbitrary carrier** from these alone; here it is combined
with the IEEE special-value laws: **a NUTS transition that terminates ends at the start position or at a trajectory point
whose log-density is neither NaN nor −inf.**
-/

set_option linter.unusedSectionVars false
set_option linter.unusedVariables false

namespace MiniMcmcVerif.NUTS.Gen

open MiniMcmcVerif.NUTS

/-- **C14 for NUTS, at the level of the whole transition**: on every carrier satisfying the IEEE special-value laws
    and the three uniform laws, a transition that terminates ends at the start position or at the position of a point of
    the leapfrog trajectory whose log-density is neither NaN nor −inf — whatever the target returns elsewhere
    (NaN gradients, divergent energies, overflowing step sizes included). -/
theorem nuts_transition_never_bad {F V : Type} [Add F] [Sub F] [Mul F] [Div F] [Neg F] [LT F] [LE F] [DecidableLT F]
    [DecidableLE F] [NatCast F] [HasExp F] [L : IEEELaws F] [Add V] [Sub V] [SMul F V]
    (U : F → Prop) (hU : UnifLaws U) (target : V → F × V) (dot : V → V → F) (eps : F) (pos mom0 : V) (exp1 : F)
    (dirs sel acc : List F) (fuel : Nat) (st' : Loop F V) (hsel : ∀ u ∈ sel, U u) (hacc : ∀ u ∈ acc, U u)
    (h : transition target dot eps pos mom0 exp1 dirs sel acc fuel = some st') :
    st'.pos = pos ∨ ∃ z : Pt F V, z.pos = st'.pos ∧ ¬ L.Bad z.logp
      ∧ OnTraj target eps ⟨pos, mom0, (target pos).2, (target pos).1⟩ z := by
  rcases transition_next_state target dot eps U hU pos mom0 exp1 dirs sel acc fuel st' hsel hacc h with h | ⟨z, hz, hadm, htr⟩
  · exact Or.inl h
  · exact Or.inr ⟨z, hz, MiniMcmcVerif.NUTS.nuts_admissible_not_bad dot _ z hadm, htr⟩

/-- every point at least one leapfrog step along the trajectory carries the log-density of its own position -/
theorem iterate_logp {F V : Type} [Add F] [Sub F] [Mul F] [Div F] [NatCast F] [Add V] [SMul F V]
    (target : V → F × V) (e : F) (k : Nat) (z0 : Pt F V) :
    ((leapfrog target e)^[k + 1] z0).logp = (target ((leapfrog target e)^[k + 1] z0).pos).1 := by
  rw [Function.iterate_succ_apply']
  rfl

/-- **"nor to a position with non-finite coordinates"**: if the target assigns a NaN / −inf density to every position
    outside a set `Good` (e.g. the positions with finite coordinates inside the support), a transition that terminates ends at
    the start position or at a position in `Good`. -/
theorem nuts_transition_good_position {F V : Type} [Add F] [Sub F] [Mul F] [Div F] [Neg F] [LT F] [LE F] [DecidableLT F]
    [DecidableLE F] [NatCast F] [HasExp F] [L : IEEELaws F] [Add V] [Sub V] [SMul F V]
    (U : F → Prop) (hU : UnifLaws U) (target : V → F × V) (dot : V → V → F) (eps : F) (pos mom0 : V) (exp1 : F)
    (dirs sel acc : List F) (fuel : Nat) (st' : Loop F V) (hsel : ∀ u ∈ sel, U u) (hacc : ∀ u ∈ acc, U u)
    (Good : V → Prop) (hgood : ∀ x : V, ¬ Good x → L.Bad (target x).1)
    (h : transition target dot eps pos mom0 exp1 dirs sel acc fuel = some st') :
    st'.pos = pos ∨ Good st'.pos := by
  rcases nuts_transition_never_bad U hU target dot eps pos mom0 exp1 dirs sel acc fuel st' hsel hacc h with h | ⟨z, hz, hnb, k, hk⟩
  · exact Or.inl h
  · -- in either direction `z` is at least one leapfrog step away, so its log-density is the target's at its own position
    obtain ⟨e, hk⟩ : ∃ e, z = (leapfrog target e)^[k + 1] _ := hk.elim (fun h => ⟨_, h⟩) (fun h => ⟨_, h⟩)
    refine Or.inr (by_contra fun hng => hnb ?_)
    rw [hk, iterate_logp]
    rw [← hz, hk] at hng
    exact hgood _ hng

/-! ### the uniform laws hold on the float-like carrier `XR` (NaN | −inf | finite | +inf), where `0/0 = NaN` -/
section xr
open XR

def xdiv : XR → XR → XR
  | .fin x, .fin y => if y = 0 then (if x = 0 then .nan else if 0 < x then .pinf else .ninf) else .fin (x / y)
  | _, _ => .nan
instance : Div XR := ⟨xdiv⟩
instance : NatCast XR := ⟨fun n => .fin n⟩

/-- a count divided by a positive count is the finite quotient -/
theorem xr_cast_div (m n : Nat) (hn : 0 < n) : ((m : Nat) : XR) / ((n : Nat) : XR) = .fin ((m : Rat) / n) :=
  if_neg (Nat.cast_ne_zero.mpr hn.ne')

/-- a finite value in `[0,1)` -/
def unitXR (u : XR) : Prop := ∃ q : Rat, u = .fin q ∧ 0 ≤ q ∧ q < 1

theorem unifLaws_xr : UnifLaws (K := XR) unitXR where
  h0 := by
    rintro u n hn ⟨q, rfl, hq0, -⟩ h
    rw [xr_cast_div 0 n hn, Nat.cast_zero, zero_div] at h
    exact not_lt.mpr hq0 h  -- `fin q < fin 0` is `q < 0` by definition
  h1 := by
    rintro u n hn ⟨q, rfl, -, hq1⟩
    rw [xr_cast_div n n hn, div_self (Nat.cast_ne_zero.mpr hn.ne')]
    exact hq1
  h2 := by
    rintro u n hn ⟨q, rfl, hq0, -⟩ h
    rw [xr_cast_div 0 n hn, Nat.cast_zero, zero_div, minOne,
      if_pos (show XR.fin 0 < ((1 : Nat) : XR) from zero_lt_one' Rat)] at h
    exact not_lt.mpr hq0 h
  hz := ⟨0, congrArg XR.fin Nat.cast_zero, le_refl 0, zero_lt_one⟩

/-- non-vacuity of `nuts_transition_never_bad`: it applies to `XR` (any `exp`) -/
example [HasExp XR] (target : XR → XR × XR) (dot : XR → XR → XR) (eps pos mom0 exp1 : XR)
    (dirs sel acc : List XR) (fuel : Nat) (st' : Loop XR XR) (hsel : ∀ u ∈ sel, unitXR u) (hacc : ∀ u ∈ acc, unitXR u)
    (h : transition target dot eps pos mom0 exp1 dirs sel acc fuel = some st') :
    st'.pos = pos ∨ ∃ z : Pt XR XR, z.pos = st'.pos ∧ ¬ IEEELaws.Bad z.logp
      ∧ OnTraj target eps ⟨pos, mom0, (target pos).2, (target pos).1⟩ z :=
  nuts_transition_never_bad unitXR unifLaws_xr target dot eps pos mom0 exp1 dirs sel acc fuel st' hsel hacc h
end xr

end MiniMcmcVerif.NUTS.Gen
