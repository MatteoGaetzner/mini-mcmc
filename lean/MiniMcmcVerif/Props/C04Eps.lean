import MiniMcmcVerif.Model.NUTS
import MiniMcmcVerif.Props.C04
import Mathlib.Algebra.Order.Field.Basic
import Mathlib.Tactic.Positivity

/-!
# C04 — the first-use step size from `find_reasonable_epsilon` is a (positive) power of two

`find_reasonable_epsilon` is the only place where the step size is produced without the clamp of fix aad1add. Whenever
it returns (its two `while` loops are modelled with fuel), the value it returns is `(1/2)^(h+1) · 2^c` or
`(1/2)^(h+1) · (1/2)^c` where `h` / `c` are the numbers of iterations of the halving / crossing loop — for every
target, start point, momentum, every `ln`, every finiteness test, over every ordered field. In particular it is
strictly positive, so `μ = ln(10 ε₀)` of `init_chain` is taken at a positive argument.
-/

set_option linter.unusedSectionVars false
set_option linter.unusedVariables false

namespace MiniMcmcVerif.NUTS

variable {K V : Type} [Field K] [LinearOrder K] [IsStrictOrderedRing K] [HasLnFin K] [Add V] [Sub V] [SMul K V]

theorem halfK_eq : (halfK : K) = 1 / 2 := by unfold halfK; push_cast; rfl

/-- the halving loop multiplies `k` by `1/2` once per iteration -/
theorem halve_spec (target : V → K × V) (z0 : Pt K V) (gradBad : Bool) (fuel : Nat) (k : K) (z : Pt K V)
    (k' : K) (z' : Pt K V)
    (h : findReasonableEps.halve target ((1 : Nat) : K) z0 gradBad fuel k z = some (k', z')) :
    ∃ n : Nat, k' = k * (1 / 2) ^ n := by
  fun_induction findReasonableEps.halve target ((1 : Nat) : K) z0 gradBad fuel k z with
  | case1 => cases h
  | case2 k z fuel _ k₁ ih => -- `k₁ := k * halfK`
    obtain ⟨n, hn⟩ := ih h
    exact ⟨n + 1, by rw [hn, pow_succ', ← mul_assoc, ← halfK_eq]⟩
  | case3 =>
    cases h
    exact ⟨0, by rw [pow_zero, mul_one]⟩

/-- the crossing loop multiplies `ε` by `2` (when the first acceptance probability exceeds 1/2) or by `1/2`
    (otherwise) once per iteration -/
theorem cross_spec (target : V → K × V) (z0 : Pt K V) (logAcc : Pt K V → K) (aPos : Bool) (a : K) (fuel : Nat)
    (eps la e : K)
    (h : findReasonableEps.cross target ((2 : Nat) : K) z0 logAcc aPos a fuel eps la = some e) :
    ∃ n : Nat, e = eps * (if aPos then (2 : K) else 1 / 2) ^ n := by
  fun_induction findReasonableEps.cross target ((2 : Nat) : K) z0 logAcc aPos a fuel eps la with
  | case1 => cases h
  | case2 eps la fuel _ eps₁ ih => -- `eps₁ := eps * (if aPos then 2 else halfK)`
    obtain ⟨n, hn⟩ := ih h
    exact ⟨n + 1, by rw [hn, pow_succ', ← mul_assoc, ← halfK_eq, ← Nat.cast_ofNat]⟩
  | case3 =>
    cases h
    exact ⟨0, by rw [pow_zero, mul_one]⟩

/-- **the heuristic's result is `(1/2)^(h+1)` times `c` doublings or `c` halvings** -/
theorem findReasonableEps_form (target : V → K × V) (dot : V → V → K) (allFinite : V → Bool) (pos mom : V)
    (fuel : Nat) (e : K) (h : findReasonableEps target dot allFinite pos mom fuel = some e) :
    ∃ hn c : Nat, e = (1 / 2) ^ (hn + 1) * 2 ^ c ∨ e = (1 / 2) ^ (hn + 1) * (1 / 2) ^ c := by
  unfold findReasonableEps at h
  simp only at h
  split at h
  · cases h
  · rename_i k z1 hk
    obtain ⟨hn, hk'⟩ := halve_spec _ _ _ _ _ _ _ _ hk
    obtain ⟨c, hc⟩ := cross_spec _ _ _ _ _ _ _ _ _ h
    refine ⟨hn, c, ?_⟩
    simp only [hc, hk', halfK_eq, Nat.cast_one, one_mul, mul_one, ← pow_succ']
    split
    · exact .inl rfl
    · exact .inr rfl

/-- **positive**: whenever `find_reasonable_epsilon` returns, it returns a strictly positive step size -/
theorem findReasonableEps_pos (target : V → K × V) (dot : V → V → K) (allFinite : V → Bool) (pos mom : V)
    (fuel : Nat) (e : K) (h : findReasonableEps target dot allFinite pos mom fuel = some e) : 0 < e := by
  obtain ⟨hn, c, h | h⟩ := findReasonableEps_form target dot allFinite pos mom fuel e h <;> rw [h] <;> positivity

/-- when neither loop iterates (finite first leapfrog, acceptance already on the far side of 1/2) the result is `1/2` -/
theorem findReasonableEps_no_iter (target : V → K × V) (dot : V → V → K) (allFinite : V → Bool) (pos mom : V)
    (fuel : Nat) (e : K) (h : findReasonableEps target dot allFinite pos mom fuel = some e) :
    e ≤ 1 / 2 ∨ ∃ c : Nat, 0 < c ∧ ∃ hn : Nat, e = (1 / 2) ^ (hn + 1) * 2 ^ c := by
  have hle (n : Nat) : ((1 : K) / 2) ^ (n + 1) ≤ 1 / 2 :=
    pow_le_of_le_one one_half_pos.le one_half_lt_one.le n.succ_ne_zero
  obtain ⟨hn, c, rfl | rfl⟩ := findReasonableEps_form target dot allFinite pos mom fuel e h
  · rcases Nat.eq_zero_or_pos c with rfl | hc
    · left; rw [pow_zero, mul_one]; exact hle hn
    · right; exact ⟨c, hc, hn, rfl⟩
  · left; rw [← pow_add, Nat.add_right_comm]; exact hle _

/-! non-vacuity: on the standard normal over ℚ (with a crude rational `ln`) the heuristic returns, after iterating -/
section nonvacuity
local instance : HasLnFin ℚ := ⟨fun x => x - 1, fun _ => true⟩
example : ∃ e, findReasonableEps (K := ℚ) (V := ℚ) (fun x => (-(x * x) / 2, -x)) (· * ·) (fun _ => true) 0 1 8 = some e ∧ 1 / 2 < e := by
  refine ⟨2, ?_, by norm_num⟩
  decide +kernel
end nonvacuity

end MiniMcmcVerif.NUTS
