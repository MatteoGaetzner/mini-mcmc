import MiniMcmcVerif.Props.C12
import MiniMcmcVerif.Props.C12Invariance
import Mathlib.RingTheory.RootsOfUnity.Complex
import Mathlib.Algebra.BigOperators.Ring.Finset
import Mathlib.Algebra.Ring.GeomSum
import Mathlib.Tactic.Linarith

/-!
# C12 — the FFT path: the DFT correlation identity is a theorem, not an assumption

`autocov_fft` computes, per column, `ifft(fft(x) · conj(fft(x)))[lag].re / n_padded / n` with `rustfft`'s
un-normalised transforms `X_k = Σ_a x_a ζ^(-ak)` and `y_t = Σ_k Y_k ζ^(kt)`, `ζ = exp(2πi/N)`. Here it is proved
(Wiener–Khinchin for the finite Fourier transform) that for real data this is exactly the circular correlation
`Σ_a x_a · x_((a+t) mod N)` times `N` — the quantity `Stats.autocovCirc` is defined by — so the only thing still trusted
about `rustfft` is that `process` computes the DFT sums.
-/

set_option linter.unusedSectionVars false
set_option linter.unusedVariables false

namespace MiniMcmcVerif.Stats

open Finset Complex

/-- forward DFT as `rustfft`'s `plan_fft_forward` defines it (no normalisation) -/
noncomputable def dft (N : ℕ) (ζ : ℂ) (x : ℕ → ℂ) (k : ℕ) : ℂ := ∑ a ∈ range N, x a * ζ ^ (-((a : ℤ) * k))

/-- inverse DFT as `plan_fft_inverse` defines it (no normalisation) -/
noncomputable def idft (N : ℕ) (ζ : ℂ) (X : ℕ → ℂ) (t : ℕ) : ℂ := ∑ k ∈ range N, X k * ζ ^ ((k : ℤ) * t)

/-- orthogonality of the characters: `Σ_{k<N} ζ^(k·m) = N` if `N ∣ m`, else `0` -/
theorem char_orth {N : ℕ} {ζ : ℂ} (hζ : IsPrimitiveRoot ζ N) (hN : 0 < N) (m : ℤ) :
    ∑ k ∈ range N, ζ ^ ((k : ℤ) * m) = if (N : ℤ) ∣ m then (N : ℂ) else 0 := by
  simp only [show ∀ k : ℕ, ζ ^ ((k : ℤ) * m) = (ζ ^ m) ^ k from fun k => by rw [mul_comm, zpow_mul, zpow_natCast]]
  split_ifs with hd
  · rw [(hζ.zpow_eq_one_iff_dvd m).mpr hd]
    simp only [one_pow, sum_const, card_range, nsmul_eq_mul, mul_one]
  · -- a geometric sum with ratio `ζ^m ≠ 1` and `(ζ^m)^N = 1`
    rw [geom_sum_eq fun h => hd ((hζ.zpow_eq_one_iff_dvd m).mp h), ← zpow_natCast, ← zpow_mul, mul_comm, zpow_mul,
      zpow_natCast, hζ.pow_eq_one, one_zpow, sub_self, zero_div]

/-- **DFT inversion** (un-normalised transforms): `idft (dft x) s = N · x (s mod N)` -/
theorem idft_dft {N : ℕ} {ζ : ℂ} (hζ : IsPrimitiveRoot ζ N) (hN : 0 < N) (x : ℕ → ℂ) (s : ℕ) :
    idft N ζ (dft N ζ x) s = N * x (s % N) := by
  have hz : ζ ≠ 0 := hζ.ne_zero hN.ne'
  -- `Σ_k (Σ_b x_b ζ^(-bk)) ζ^(ks) = Σ_b x_b Σ_k ζ^(k(s-b))`, and orthogonality leaves `b = s % N`
  have hb : ∀ b ∈ range N, ∑ k ∈ range N, x b * ζ ^ (-((b : ℤ) * k)) * ζ ^ ((k : ℤ) * s)
      = if b = s % N then (N : ℂ) * x b else 0 := fun b hb => by
    have e : ∀ k : ℕ, ζ ^ (-((b : ℤ) * k)) * ζ ^ ((k : ℤ) * s) = ζ ^ ((k : ℤ) * ((s : ℤ) - b)) := fun k => by
      rw [← zpow_add₀ hz]; congr 1; ring
    -- among `b < N`, `N ∣ s - b` singles out `b = s % N`
    have hd : (N : ℤ) ∣ (s : ℤ) - b ↔ b = s % N := by
      rw [← Int.modEq_iff_dvd, Int.natCast_modEq_iff, Nat.ModEq, Nat.mod_eq_of_lt (mem_range.mp hb)]
    simp only [mul_assoc, e]
    rw [← Finset.mul_sum, char_orth hζ hN, mul_ite, mul_zero, mul_comm]
    simp only [hd]
  simp only [idft, dft, Finset.sum_mul]
  rw [Finset.sum_comm, Finset.sum_congr rfl hb, Finset.sum_ite_eq', if_pos (mem_range.mpr (Nat.mod_lt _ hN))]

/-- **cross-correlation theorem** for any primitive `N`-th root of unity in `ℂ` and any two sequences:
    `idft (X · conj Y) t = N · Σ_a conj y_a · x_((a+t) mod N)` -/
theorem idft_dft_mul_conj_dft {N : ℕ} {ζ : ℂ} (hζ : IsPrimitiveRoot ζ N) (hN : 0 < N) (x y : ℕ → ℂ) (t : ℕ) :
    idft N ζ (fun k => dft N ζ x k * (starRingEnd ℂ) (dft N ζ y k)) t
      = (N : ℂ) * ∑ a ∈ range N, (starRingEnd ℂ) (y a) * x ((a + t) % N) := by
  have hz : ζ ≠ 0 := hζ.ne_zero hN.ne'
  -- `ζ` lies on the unit circle, so conjugation (`star`) inverts it
  have hinv : star ζ = ζ⁻¹ := (Complex.inv_eq_conj (hζ.norm'_eq_one hN.ne')).symm
  have hconj : ∀ k : ℕ, (starRingEnd ℂ) (dft N ζ y k)
      = ∑ a ∈ range N, (starRingEnd ℂ) (y a) * ζ ^ ((k : ℤ) * a) := fun k => by
    simp only [starRingEnd_apply, dft, star_sum, star_mul', star_zpow₀, hinv, inv_zpow, ← zpow_neg, neg_neg,
      mul_comm (k : ℤ)]
  -- by linearity in `conj Y` the left side is `Σ_a conj y_a · idft (dft x) (a + t)`
  have hlin : idft N ζ (fun k => dft N ζ x k * (starRingEnd ℂ) (dft N ζ y k)) t
      = ∑ a ∈ range N, (starRingEnd ℂ) (y a) * idft N ζ (dft N ζ x) (a + t) := by
    simp only [idft, hconj, Finset.mul_sum, Finset.sum_mul]
    rw [Finset.sum_comm]
    refine Finset.sum_congr rfl fun a _ => Finset.sum_congr rfl fun k _ => ?_
    rw [Nat.cast_add, mul_add, zpow_add₀ hz]; ring
  simp only [hlin, idft_dft hζ hN, Finset.mul_sum]
  exact Finset.sum_congr rfl fun a _ => by ring

/-- **correlation theorem** for real data: `idft (X · conj X) t = N · Σ_a x_a · x_((a+t) mod N)` -/
theorem idft_dft_mul_conj (N : ℕ) (hN : 0 < N) (x : ℕ → ℝ) (t : ℕ) (ht : t < N) :
    idft N (exp (2 * Real.pi * I / N)) (fun k => dft N (exp (2 * Real.pi * I / N)) (fun a => (x a : ℂ)) k
        * (starRingEnd ℂ) (dft N (exp (2 * Real.pi * I / N)) (fun a => (x a : ℂ)) k)) t
      = (N : ℂ) * ∑ a ∈ range N, ((x a * x ((a + t) % N) : ℝ) : ℂ) := by
  rw [idft_dft_mul_conj_dft (Complex.isPrimitiveRoot_exp N hN.ne') hN]
  simp only [Complex.conj_ofReal, Complex.ofReal_mul]

/-- **`autocov_fft` as coded** (centre, zero-pad to `npad n`, forward transform, multiply by the conjugate, inverse
    transform, real part, divide by `n_padded` and by `n`) **equals the model's `autocovCirc`**, lag by lag — and
    therefore (`autocovCirc_eq_autocovBF`) the brute-force autocovariance. -/
theorem autocov_fft_eq_autocovCirc (xs : List ℝ) (lag : ℕ) (hlag : lag < xs.length) :
    let np := npad xs.length
    let ζ := exp (2 * Real.pi * I / np)
    let X := dft np ζ (fun a => ((padded (centre xs) a : ℝ) : ℂ))
    (idft np ζ (fun k => X k * (starRingEnd ℂ) (X k)) lag).re / np / xs.length = (autocovCirc xs).getD lag 0 := by
  intro np ζ X
  obtain ⟨k, hk, hnp⟩ := npad_spec xs.length
  have hnp0 : 0 < np := (Nat.two_pow_pos k).trans_eq hk.symm
  rw [show idft np ζ (fun k => X k * (starRingEnd ℂ) (X k)) lag = _ from
      idft_dft_mul_conj np hnp0 (padded (centre xs)) lag (by omega),
    ← Complex.ofReal_sum, ← Complex.ofReal_natCast, ← Complex.ofReal_mul, Complex.ofReal_re,
    mul_div_cancel_left₀ _ (Nat.cast_ne_zero.mpr hnp0.ne')]
  unfold autocovCirc
  simp only [sum_eq]
  rw [List.getD_eq_getElem?_getD, List.getElem?_map, List.getElem?_range hlag]
  rfl

end MiniMcmcVerif.Stats
