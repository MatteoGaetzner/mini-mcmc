import MiniMcmcVerif.Model.IEEE

/-!
# `XR`: a concrete extended-real model satisfying `IEEELaws` (non-vacuity of the special-value theorems)
-/

namespace MiniMcmcVerif

/-- NaN, −inf, a finite rational, +inf — with IEEE-style `+`, `-`, `<`. -/
inductive XR where
  | nan | ninf | fin (q : Rat) | pinf
  deriving DecidableEq, Repr

namespace XR

def add : XR → XR → XR
  | nan, _ => nan
  | _, nan => nan
  | ninf, pinf => nan
  | pinf, ninf => nan
  | ninf, _ => ninf
  | _, ninf => ninf
  | pinf, _ => pinf
  | _, pinf => pinf
  | fin a, fin b => fin (a + b)

def neg : XR → XR
  | nan => nan | ninf => pinf | pinf => ninf | fin a => fin (-a)

def sub (a b : XR) : XR := add a (neg b)

def lt : XR → XR → Prop
  | nan, _ => False
  | _, nan => False
  | ninf, ninf => False
  | ninf, _ => True
  | _, ninf => False
  | pinf, _ => False
  | fin _, pinf => True
  | fin a, fin b => a < b

instance : Add XR := ⟨add⟩
instance : Sub XR := ⟨sub⟩
instance : LT XR := ⟨lt⟩

instance : DecidableLT XR := fun a b => by
  cases a <;> cases b <;> simp only [LT.lt, lt] <;> infer_instance

def bad : XR → Prop
  | nan => True | ninf => True | _ => False

def isNaN : XR → Prop
  | nan => True | _ => False

/- Each law is a finite table over the constructors: `rintro … ⟨⟩` goes through its cells and drops those whose
   hypothesis computes to `False`; in the others the conclusion computes to `True` (`trivial`) or to `¬ False` (`id`). -/
instance : IEEELaws XR where
  Bad := bad
  bad_add_left := by rintro (_|_|_|_) (_|_|_|_) ⟨⟩ <;> trivial
  bad_add_right := by rintro (_|_|_|_) (_|_|_|_) ⟨⟩ <;> trivial
  bad_sub_left := by rintro (_|_|_|_) (_|_|_|_) ⟨⟩ <;> trivial
  not_lt_bad := by rintro (_|_|_|_) (_|_|_|_) ⟨⟩ <;> exact id
  IsNaN := isNaN
  nan_bad := by rintro (_|_|_|_) ⟨⟩; trivial
  nan_add_left := by rintro (_|_|_|_) (_|_|_|_) ⟨⟩ <;> trivial
  nan_add_right := by rintro (_|_|_|_) (_|_|_|_) ⟨⟩ <;> trivial
  nan_sub_left := by rintro (_|_|_|_) (_|_|_|_) ⟨⟩ <;> trivial
  nan_sub_right := by rintro (_|_|_|_) (_|_|_|_) ⟨⟩ <;> trivial
  not_lt_nan := by rintro (_|_|_|_) (_|_|_|_) ⟨⟩ <;> exact id
  not_nan_lt := by rintro (_|_|_|_) (_|_|_|_) ⟨⟩ <;> exact id

theorem xr_satisfies_laws : Nonempty (IEEELaws XR) := ⟨inferInstance⟩

end XR
end MiniMcmcVerif
