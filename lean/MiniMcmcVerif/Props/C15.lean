import MiniMcmcVerif.Model.Dist
import Mathlib.Analysis.SpecialFunctions.Log.Basic
import Mathlib.Analysis.SpecialFunctions.Sqrt
import Mathlib.Analysis.SpecialFunctions.Trigonometric.Basic
import Mathlib.Tactic.LinearCombination
import Mathlib.Tactic.Positivity
import Mathlib.Analysis.Calculus.Deriv.Pow
import Mathlib.Analysis.Calculus.Deriv.Mul
import Mathlib.Analysis.Calculus.Deriv.Add
import Mathlib.Tactic.Ring

/-!
# C15 — built-in densities, gradients and the proposal density match their definitions (over ℝ)
-/

namespace MiniMcmcVerif.Dist

noncomputable instance : Transc ℝ := ⟨Real.log, Real.pi⟩

@[simp] theorem two_real : (two : ℝ) = 2 := Nat.cast_ofNat
@[simp] theorem half_real : (half : ℝ) = 1 / 2 := by simp only [half, Nat.cast_one, Nat.cast_ofNat]

/-- **normalised − unnormalised = constant**: the two forms of the 2-D Gaussian differ by `-ln(2π) - ½ ln|Σ|`,
    whatever the point. -/
theorem gauss2d_norm_minus_unnorm_const (s : Cov2 ℝ) (absdet m0 m1 x0 x1 : ℝ) :
    gauss2dLogp s absdet m0 m1 x0 x1 - gauss2dUnnorm s m0 m1 x0 x1
      = -Real.log (2 * Real.pi) - (1 / 2) * Real.log absdet := by
  simp only [gauss2dLogp, gauss2dUnnorm, Transc.ln, Transc.pi, two_real, half_real]
  ring

set_option linter.unusedVariables false in
/-- the quadratic form is the Mahalanobis form `δᵀ Σ⁻¹ δ` with the closed-form 2×2 inverse. -/
theorem quad2_eq (s : Cov2 ℝ) (m0 m1 x0 x1 : ℝ) (hdet : s.det ≠ 0) :
    quad2 s m0 m1 x0 x1
      = (s.d * (x0 - m0) ^ 2 - (s.b + s.c) * (x0 - m0) * (x1 - m1) + s.a * (x1 - m1) ^ 2) / s.det := by
  simp only [quad2]
  ring

/-- the inverse computed by `DiffableGaussian2D::new` is the inverse of the covariance. -/
theorem dgNew_inverse (s : Cov2 ℝ) (hdet : s.det ≠ 0) :
    let g := dgNew s
    s.a * g.i00 + s.b * g.i10 = 1 ∧ s.a * g.i01 + s.b * g.i11 = 0
    ∧ s.c * g.i00 + s.d * g.i10 = 0 ∧ s.c * g.i01 + s.d * g.i11 = 1 := by
  have hD : (s.a * s.d - s.b * s.c) * (1 / (s.a * s.d - s.b * s.c)) = 1 := mul_one_div_cancel hdet
  simp only [dgNew, Cov2.det, Nat.cast_one]
  exact ⟨by linear_combination hD, by ring, by ring, by linear_combination hD⟩

/-- `norm_const = -ln(2π) - ½ ln det` (the 2-D Gaussian normalising constant). -/
theorem dgNew_normConst (s : Cov2 ℝ) :
    (dgNew s).normConst = -Real.log (2 * Real.pi) - (1 / 2) * Real.log s.det := by
  simp only [dgNew, Transc.ln, Transc.pi, two_real]
  ring

/-- **batched and single-point evaluations agree row by row**. -/
theorem diffable_batch_rowwise (g : DG ℝ) (m0 m1 : ℝ) (rows : List (ℝ × ℝ)) :
    dgBatch g m0 m1 rows = rows.map fun r => dgSingle g m0 m1 r.1 r.2 := by
  unfold dgBatch
  apply List.map_congr_left
  intro r _
  simp only [dgBatchRow, dgSingle]
  ring

set_option linter.unusedVariables false in
/-- the batched form is the normalised 2-D Gaussian log-density (hence equals `Gaussian2D`'s normalised form). -/
theorem dg_eq_gauss2d (s : Cov2 ℝ) (m0 m1 x0 x1 : ℝ) (hdet : s.det ≠ 0) :
    dgSingle (dgNew s) m0 m1 x0 x1 = gauss2dLogp s s.det m0 m1 x0 x1 := by
  -- `x * (1 / det) = x / det` entry by entry: the two quadratic forms are the same expression
  have hq : dgQuad (dgNew s) m0 m1 x0 x1 = quad2 s m0 m1 x0 x1 := by
    simp only [dgQuad, dgNew, quad2, Nat.cast_one, mul_one_div]
  rw [dgSingle, hq, dgNew_normConst, gauss2dLogp]
  simp only [Transc.ln, Transc.pi, two_real, half_real]
  ring

/-- the quadratic form of `dgQuad` in `(t - m, d)`, scaled and shifted, differentiated in `t` -/
theorem hasDerivAt_quad (p q r u d c k m x : ℝ) :
    HasDerivAt (fun t => -((((t - m) * p + d * r) * (t - m) + ((t - m) * q + d * u) * d) * k) + c)
      (-((2 * p * (x - m) + (q + r) * d) * k)) x := by
  have hx := (hasDerivAt_id' x).sub_const m
  exact ((((((hx.mul_const p).add_const (d * r)).fun_mul hx).fun_add
    (((hx.mul_const q).add_const (d * u)).mul_const d)).mul_const k).fun_neg.add_const c).congr_deriv (by ring)

/-- **the gradient handed to HMC/NUTS is the true gradient** (2-D Gaussian, coordinate-wise). -/
theorem gaussian_hasGradient (g : DG ℝ) (m0 m1 x0 x1 : ℝ) :
    HasDerivAt (fun t => dgSingle g m0 m1 t x1) (dgGrad g m0 m1 x0 x1).1 x0
    ∧ HasDerivAt (fun t => dgSingle g m0 m1 x0 t) (dgGrad g m0 m1 x0 x1).2 x1 := by
  constructor
  · exact (hasDerivAt_quad g.i00 g.i01 g.i10 g.i11 (x1 - m1) g.normConst half m0 x0).congr_deriv
      (by simp only [dgGrad, two_real]; ring)
  · -- the same form with the two coordinates, and the matrix entries, exchanged
    refine ((hasDerivAt_quad g.i11 g.i10 g.i01 g.i00 (x0 - m0) g.normConst half m1 x1).congr_of_eventuallyEq
      (.of_forall fun t => ?_)).congr_deriv ?_
    · simp only [dgSingle, dgQuad]; ring
    · simp only [dgGrad, two_real]; ring

/-- **Rosenbrock 2-D**: the closed-form gradient is the derivative, coordinate-wise. -/
theorem rosenbrock2d_hasGradient (a b x y : ℝ) :
    HasDerivAt (fun t => rosen2d a b t y) (rosen2dGrad a b x y).1 x
    ∧ HasDerivAt (fun t => rosen2d a b x t) (rosen2dGrad a b x y).2 y := by
  constructor
  · have ha := (hasDerivAt_id' x).const_sub a
    have hq := ((hasDerivAt_id' x).fun_mul (hasDerivAt_id' x)).const_sub y
    exact ((ha.fun_mul ha).fun_add ((hq.fun_mul hq).mul_const b)).fun_neg.congr_deriv
      (by simp only [rosen2dGrad, two_real]; push_cast; ring)
  · have hq := (hasDerivAt_id' y).sub_const (x * x)
    exact ((hasDerivAt_const y ((a - x) * (a - x))).fun_add ((hq.fun_mul hq).mul_const b)).fun_neg.congr_deriv
      (by simp only [rosen2dGrad, two_real]; ring)

/-! ### the isotropic Gaussian proposal -/

/-- the per-coordinate normal log-density `ln N(t; f, σ²)` -/
noncomputable def lnNormal (f sigma t : ℝ) : ℝ := -((t - f) ^ 2) / (2 * sigma ^ 2) - (1 / 2) * Real.log (2 * Real.pi * sigma ^ 2)

/-- a constant subtracted from every term of a `zipWith` sum comes out `length` times -/
theorem sum_zipWith_sub_const {β γ : Type} (g : β → γ → ℝ) (c : ℝ) (l₁ : List β) (l₂ : List γ)
    (h : l₁.length = l₂.length) :
    (List.zipWith (fun a b => g a b - c) l₁ l₂).sum = (List.zipWith g l₁ l₂).sum - l₁.length * c := by
  induction l₁ generalizing l₂ with
  | nil => simp
  | cons a l₁ ih =>
    cases l₂ with
    | nil => cases h
    | cons b l₂ =>
      simp only [List.zipWith_cons_cons, List.sum_cons, List.length_cons, ih l₂ (Nat.succ.inj h)]
      push_cast
      ring

/-- **`logp(from, to)` is the normalised log-density of `N(from, σ² I)` at `to`**: the sum over coordinates of the
    one-dimensional normal log-densities with mean `from_i` and standard deviation `std`. -/
theorem iso_logp_eq_normal (std : ℝ) (from_ to_ : List ℝ) (hlen : from_.length = to_.length) :
    isoLogp std from_ to_ = (List.zipWith (fun f t => lnNormal f std t) from_ to_).sum := by
  simp only [isoLogp, lnNormal, Transc.ln, Transc.pi, two_real, half_real, ← List.sum_eq_foldl, pow_two]
  rw [sum_zipWith_sub_const _ _ _ _ hlen]
  ring

/-- **symmetry** in the two arguments (equal lengths). -/
theorem iso_logp_symm (std : ℝ) (x y : List ℝ) (hlen : x.length = y.length) : isoLogp std x y = isoLogp std y x := by
  rw [iso_logp_eq_normal std x y hlen, iso_logp_eq_normal std y x hlen.symm, List.zipWith_comm_of_comm]
  intro a b
  simp only [lnNormal]
  ring

/-- `exp (lnNormal f σ t)` is the normal density `(2πσ²)^{-1/2} · exp(-(t-f)²/(2σ²))`. -/
theorem exp_lnNormal (f sigma t : ℝ) (hs : sigma ≠ 0) :
    Real.exp (lnNormal f sigma t)
      = (Real.sqrt (2 * Real.pi * sigma ^ 2))⁻¹ * Real.exp (-((t - f) ^ 2) / (2 * sigma ^ 2)) := by
  have hpos : 0 < 2 * Real.pi * sigma ^ 2 := by positivity
  rw [lnNormal, Real.exp_sub, div_eq_inv_mul, one_div_mul_eq_div, ← Real.log_sqrt hpos.le,
    Real.exp_log (Real.sqrt_pos.mpr hpos)]

/-! non-vacuity -/
example : rosen2d (1 : ℝ) 100 1 1 = 0 := by norm_num [rosen2d]
example : (rosen2dGrad (1 : ℝ) 100 1 1) = (0, 0) := by norm_num [rosen2dGrad, two]

end MiniMcmcVerif.Dist
