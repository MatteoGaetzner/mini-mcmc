import MiniMcmcVerif.Model.Run
import Mathlib.Logic.Function.Iterate

/-!
# C09 — `run()`: shape, chain order, burn-in discard and continuation are exact

Theorems about the loop models in `Model/Run.lean`, for every `c`, `d`, every chain (`step`, `obs`) and every start
state. `step^[n]` is `n`-fold iteration.
-/

namespace MiniMcmcVerif.Run

variable {σ ρ : Type}

theorem iter_eq (step : σ → σ) (n : Nat) (s : σ) : iter step n s = step^[n] s := by
  induction n generalizing s with
  | zero => rfl
  | succ n ih => simp [iter, ih]

/-- the loop body as a map over the rows: `out[i - d] = state` touches row `k` iff `d + k = i`. -/
theorem runBody_eq (step : σ → σ) (obs : σ → ρ) (d : Nat) (s : σ) (rows : List ρ) (i : Nat) :
    runBody step obs d (s, rows) i
      = (step s, rows.mapIdx fun k x => if d + k = i then obs (step s) else x) := by
  refine Prod.ext rfl (List.mapIdx_eq_iff.mpr fun k => ?_).symm
  show (if d ≤ i then rows.set (i - d) (obs (step s)) else rows)[k]? = _
  by_cases h : d + k = i
  · subst h
    rw [if_pos (Nat.le_add_right d k), Nat.add_sub_cancel_left, List.getElem?_set_self']
    simp only [if_true]
    rfl
  · simp only [if_neg h, Option.map_id']
    split
    · next hle => exact List.getElem?_set_ne fun (e : i - d = k) => h (e ▸ Nat.add_sub_cancel' hle)
    · rfl

/-- Loop invariant of all three `run` loops: running the body over the indices `a, …, a + n - 1` makes exactly `n`
    transitions, and row `k` is overwritten iff its index `d + k` was visited, by the state the chain had then. -/
theorem foldl_runBody (step : σ → σ) (obs : σ → ρ) (d a n : Nat) (s : σ) (rows : List ρ) :
    (List.range' a n).foldl (runBody step obs d) (s, rows)
      = (step^[n] s, rows.mapIdx fun k x =>
          if a ≤ d + k ∧ d + k < a + n then obs (step^[d + k - a + 1] s) else x) := by
  induction n with
  | zero =>
    refine Prod.ext rfl (List.mapIdx_eq_iff.mpr fun k => ?_).symm
    have h : ¬(a ≤ d + k ∧ d + k < a + 0) := fun h => Nat.lt_irrefl _ (Nat.lt_of_le_of_lt h.1 h.2)
    simp only [if_neg h, Option.map_id']
    rfl
  | succ n ih =>
    rw [List.range'_1_concat, List.foldl_append, ih, List.foldl_cons, List.foldl_nil, runBody_eq,
      List.mapIdx_mapIdx, ← Function.iterate_succ_apply' step n s]
    refine Prod.ext rfl (List.mapIdx_eq_mapIdx_iff.mpr fun k _ => ?_)
    show (if _ then _ else if _ then _ else _) = _
    by_cases h2 : d + k = a + n
    · rw [if_pos h2, if_pos ⟨Nat.le.intro h2.symm, Nat.lt_succ_of_le (Nat.le_of_eq h2)⟩, h2, Nat.add_sub_cancel_left]
    · by_cases h1 : a ≤ d + k ∧ d + k < a + n
      · rw [if_neg h2, if_pos h1, if_pos ⟨h1.1, Nat.lt_succ_of_lt h1.2⟩]
      · rw [if_neg h2, if_neg h1, if_neg fun h => (Nat.lt_succ_iff_lt_or_eq.mp h.2).elim (fun h' => h1 ⟨h.1, h'⟩) h2]

/-- **run_chain**: exactly `c` rows; row `k` is the state after exactly `d + k + 1` transitions; the chain is
    left after exactly `c + d` transitions (no transition more than needed). -/
theorem runChain_spec (step : σ → σ) (obs : σ → ρ) (zero : ρ) (c d : Nat) (s : σ) :
    runChain step obs zero c d s
      = (step^[c + d] s, (List.range c).map fun k => obs (step^[d + k + 1] s)) := by
  rw [runChain, List.range_eq_range', foldl_runBody]
  refine Prod.ext rfl (List.ext_getElem ?_ fun k hk _ => ?_)
  · rw [List.length_mapIdx, List.length_replicate, List.length_map, List.length_range]
  · rw [List.length_mapIdx, List.length_replicate] at hk
    rw [List.getElem_mapIdx, List.getElem_map, List.getElem_range, if_pos (by omega)]
    rfl

theorem runChain_length (step : σ → σ) (obs : σ → ρ) (zero : ρ) (c d : Nat) (s : σ) :
    (runChain step obs zero c d s).2.length = c := by
  rw [runChain_spec]; simp

/-- the sampler is left at the last returned state. -/
theorem runChain_last (step : σ → σ) (obs : σ → ρ) (zero : ρ) (c d : Nat) (s : σ) (hc : 0 < c) :
    (runChain step obs zero c d s).2.getLast? = some (obs (runChain step obs zero c d s).1) := by
  cases c with
  | zero => exact absurd hc (Nat.lt_irrefl 0)
  | succ c =>
    rw [runChain_spec, List.range_succ, List.map_append, Nat.add_comm (c + 1) d]
    exact List.getLast?_concat ..

/-- **Continuation** (MH, Gibbs): a run followed by a second run without burn-in returns exactly what one
    longer run returns, and leaves the chain in the same state. -/
theorem run_continuation (step : σ → σ) (obs : σ → ρ) (zero : ρ) (c₁ c₂ d : Nat) (s : σ) :
    let r₁ := runChain step obs zero c₁ d s
    let r₂ := runChain step obs zero c₂ 0 r₁.1
    runChain step obs zero (c₁ + c₂) d s = (r₂.1, r₁.2 ++ r₂.2) := by
  simp only [runChain_spec, ← Function.iterate_add_apply, List.range_add, List.map_append, List.map_map]
  refine Prod.ext (congrArg (step^[·] s) (by omega)) (congrArg (_ ++ ·) (List.map_congr_left fun k _ => ?_))
  exact congrArg (fun n => obs (step^[n] s)) (show d + (c₁ + k) + 1 = _ by omega)

/-- General continuation: the second call may have its own burn-in `d₂`; its rows are the iterates counted from
    the state the first call left. -/
theorem run_second_call (step : σ → σ) (obs : σ → ρ) (zero : ρ) (c₁ d₁ c₂ d₂ : Nat) (s : σ) :
    (runChain step obs zero c₂ d₂ (runChain step obs zero c₁ d₁ s).1).2
      = (List.range c₂).map fun k => obs (step^[c₁ + d₁ + d₂ + k + 1] s) := by
  simp only [runChain_spec, ← Function.iterate_add_apply]
  exact List.map_congr_left fun k _ => congrArg (fun n => obs (step^[n] s)) (by omega)

/-! ### HMC -/

/-- `HMC::run` is the discard loop followed by the `run_chain` loop without burn-in, its index counted from 1
    (`i + 1 - 1` and `if 0 ≤ i` compute, so the two loop bodies are the same function). -/
theorem hmcRun_eq (step : σ → σ) (obs : σ → ρ) (zero : ρ) (c d : Nat) (s : σ) :
    hmcRun step obs zero c d s = runChain step obs zero c 0 (step^[d] s) := by
  rw [hmcRun, runChain, List.range'_succ_left, List.foldl_map, List.range_eq_range', iter_eq]
  rfl

/-- **HMC::run** (before the permute): row `k` is the batch after exactly `d + k + 1` steps, `c + d` steps in all. -/
theorem hmcRun_spec (step : σ → σ) (obs : σ → ρ) (zero : ρ) (c d : Nat) (s : σ) :
    hmcRun step obs zero c d s
      = (step^[c + d] s, (List.range c).map fun k => obs (step^[d + k + 1] s)) := by
  rw [hmcRun_eq, runChain_spec, ← Function.iterate_add_apply]
  refine Prod.ext rfl (List.map_congr_left fun k _ => ?_)
  rw [← Function.iterate_add_apply, Nat.zero_add, Nat.add_comm (k + 1) d]
  rfl

/-- HMC's loop computes exactly what the generic `run_chain` loop computes (so continuation etc. carry over). -/
theorem hmcRun_eq_runChain (step : σ → σ) (obs : σ → ρ) (zero : ρ) (c d : Nat) (s : σ) :
    hmcRun step obs zero c d s = runChain step obs zero c d s := by
  rw [hmcRun_spec, runChain_spec]

/-- after the permute, entry `[chain][k]` is chain `chain`'s row of the batch after `d + k + 1` steps. -/
theorem permute10_spec (nChains : Nat) (rows : List (List ρ)) (dflt : ρ) (ch k : Nat)
    (hch : ch < nChains) (hk : k < rows.length) :
    ((permute10 nChains rows dflt)[ch]'(by simp [permute10, hch]))[k]'(by simp [permute10, hk])
      = (rows[k]).getD ch dflt := by
  simp only [permute10, List.getElem_map, List.getElem_range]

/-! ### NUTS -/

/-- **NUTSChain::run** (`c ≥ 1`): row `k` is the position after exactly `d + k` transitions counted from the call
    (row 0 of a run without warm-up is the start position; with warm-up it is the last warm-up state), and exactly
    `c + d - 1` transitions are made. -/
theorem nutsRun_spec (init : σ → σ) (step : σ → σ) (obs : σ → ρ) (zero : ρ) (c d : Nat) (s : σ) (hc : 0 < c) :
    nutsRun init step obs zero c d s
      = (step^[c + d - 1] (init s), (List.range c).map fun k => obs (step^[d + k] (init s))) := by
  rw [nutsRun, foldl_runBody]
  refine Prod.ext rfl (List.ext_getElem ?_ fun k hk _ => ?_)
  · rw [List.length_mapIdx, List.length_set, List.length_replicate, List.length_map, List.length_range]
  · rw [List.length_mapIdx, List.length_set, List.length_replicate] at hk
    rw [List.getElem_mapIdx, List.getElem_map, List.getElem_range]
    by_cases h : 1 ≤ d + k
    · rw [if_pos (by omega), Nat.sub_add_cancel h]
    · -- only row 0 of a run without warm-up is never written by the loop: it keeps what `init_chain` stored
      obtain ⟨rfl, rfl⟩ : d = 0 ∧ k = 0 := by omega
      rw [if_neg (by omega), List.getElem_set_self]
      rfl

/-! ### chain order -/

/-- **Chain order**: block `i` of the stacked output is the `run` of the `i`-th chain, and chain `i` is left
    in the state its own run leaves it. -/
theorem run_chain_order (run1 : σ → σ × List ρ) (chains : List σ) (i : Nat) (hi : i < chains.length) :
    ((runAll run1 chains).2)[i]'(by simp [runAll, hi]) = (run1 chains[i]).2
    ∧ ((runAll run1 chains).1)[i]'(by simp [runAll, hi]) = (run1 chains[i]).1 := by
  simp [runAll]

theorem runAll_shape (run1 : σ → σ × List ρ) (chains : List σ) :
    (runAll run1 chains).2.length = chains.length ∧ (runAll run1 chains).1.length = chains.length := by
  simp [runAll]

/-- the multi-chain NUTS runner returns exactly what its chains return individually. -/
theorem nuts_runner_eq_chains (init step : σ → σ) (obs : σ → ρ) (zero : ρ) (c d : Nat) (chains : List σ) :
    (runAll (nutsRun init step obs zero c d) chains).2 = chains.map fun s => (nutsRun init step obs zero c d s).2 := by
  simp [runAll]

/-! ### non-vacuity: `c = 3, d = 2` with a counter chain -/

example : runChain (· + 1) id 0 3 2 (10 : Nat) = (15, [13, 14, 15]) := by decide
example : hmcRun (· + 1) id 0 3 2 (10 : Nat) = (15, [13, 14, 15]) := by decide
example : nutsRun id (· + 1) id 0 3 2 (10 : Nat) = (14, [12, 13, 14]) := by decide
example : nutsRun id (· + 1) id 0 3 0 (10 : Nat) = (12, [10, 11, 12]) := by decide

end MiniMcmcVerif.Run
