import MiniMcmcVerif.Props.C15

/-!
# C15 — `RosenbrockND`: the closed-form gradient is the derivative, for every dimension and every coordinate

`Model/Dist.lean` gives `rosenND` (the value the code computes per row: a `zipWith` over the row and its tail, summed and
negated) and `rosenNDGradAt` (the gradient the correspondence compares with burn's autodiff). Here the two are related over
ℝ with no bound on the dimension: for every row `x` and every coordinate `k < x.length`,
`t ↦ rosenND (x.set k t)` has derivative `rosenNDGradAt x k` at `x[k]`.

The row's density is the sum of the 2-d densities `rosen2d 1 100` of consecutive coordinates; coordinate `k` of the
gradient collects `∂₁` of the term it starts and `∂₂` of the term it ends, so everything reduces to
`rosenbrock2d_hasGradient`.
-/

namespace MiniMcmcVerif.Dist

theorem rosenND_nil : rosenND ([] : List ℝ) = 0 := neg_zero

theorem rosenND_singleton (a : ℝ) : rosenND [a] = 0 := neg_zero

theorem rosenND_cons_cons (a b : ℝ) (r : List ℝ) : rosenND (a :: b :: r) = rosen2d 1 100 a b + rosenND (b :: r) := by
  simp only [rosenND, rosen2d, List.drop_succ_cons, List.drop_zero, List.zipWith_cons_cons, ← List.sum_eq_foldl,
    List.sum_cons]
  push_cast
  ring

/-! the model's closed form, read off lists -/

theorem rosenNDGradAt_singleton (a : ℝ) : rosenNDGradAt [a].toArray 0 = 0 := by
  simp only [rosenNDGradAt, List.size_toArray, List.length_singleton, Nat.lt_irrefl, Nat.le_zero_eq, one_ne_zero, if_false,
    sub_self]

theorem rosenNDGradAt_zero (a b : ℝ) (r : List ℝ) : rosenNDGradAt (a :: b :: r).toArray 0 = (rosen2dGrad 1 100 a b).1 := by
  simp only [rosenNDGradAt, rosen2dGrad, List.size_toArray, List.length_cons, Array.getD_eq_getD_getElem?,
    List.getElem?_toArray, List.getElem?_cons_succ, List.getElem?_cons_zero, Option.getD_some, Nat.zero_add,
    Nat.lt_add_left_iff_pos, Nat.zero_lt_succ, Nat.le_zero_eq, one_ne_zero, if_true, if_false, two_real, Nat.cast_ofNat,
    Nat.cast_one]
  ring

theorem rosenNDGradAt_one (a b : ℝ) (r : List ℝ) :
    rosenNDGradAt (a :: b :: r).toArray 1 = (rosen2dGrad 1 100 a b).2 + rosenNDGradAt (b :: r).toArray 0 := by
  simp only [rosenNDGradAt, rosen2dGrad, List.size_toArray, List.length_cons, Array.getD_eq_getD_getElem?,
    List.getElem?_toArray, List.getElem?_cons_succ, List.getElem?_cons_zero, Option.getD_some, Nat.add_lt_add_iff_right,
    Nat.le_refl, if_true, Nat.le_zero_eq, one_ne_zero, if_false, Nat.sub_self, two_real, Nat.cast_ofNat, Nat.cast_one,
    Nat.zero_add, sub_zero]
  ring

theorem rosenNDGradAt_add_two (a : ℝ) (l : List ℝ) (k : Nat) :
    rosenNDGradAt (a :: l).toArray (k + 2) = rosenNDGradAt l.toArray (k + 1) := by
  simp only [rosenNDGradAt, List.size_toArray, List.length_cons, Array.getD_eq_getD_getElem?, List.getElem?_toArray,
    List.getElem?_cons_succ, Nat.add_lt_add_iff_right, Nat.le_add_left, Nat.add_one_sub_one]

/-- **RosenbrockND**: for every dimension and every coordinate, the closed-form gradient is the partial derivative of the
coded log-density. -/
theorem rosenbrockND_hasGradient (x : List ℝ) (k : Nat) (hk : k < x.length) :
    HasDerivAt (fun t => rosenND (x.set k t)) (rosenNDGradAt x.toArray k) x[k] := by
  induction x generalizing k with
  | nil => cases hk
  | cons a l ih =>
    cases l with
    | nil =>
      obtain rfl : k = 0 := Nat.lt_one_iff.mp hk
      simp only [List.set_cons_zero, rosenND_singleton, rosenNDGradAt_singleton]
      exact hasDerivAt_const _ _
    | cons b r =>
      match k with
      | 0 =>
        simp only [List.set_cons_zero, rosenND_cons_cons, rosenNDGradAt_zero]
        exact (rosenbrock2d_hasGradient 1 100 a b).1.add_const _
      | 1 =>
        simp only [List.set_cons_succ, List.set_cons_zero, rosenND_cons_cons, rosenNDGradAt_one]
        exact (rosenbrock2d_hasGradient 1 100 a b).2.add (ih 0 (Nat.zero_lt_succ _))
      | k + 2 =>
        simp only [List.set_cons_succ, rosenND_cons_cons, rosenNDGradAt_add_two]
        exact (ih (k + 1) (Nat.lt_of_succ_lt_succ hk)).const_add _

/-- non-vacuity: a 3-d row, middle coordinate — both the forward and the backward term are present. -/
example : rosenNDGradAt ([1, 2, 3] : List ℝ).toArray 1 = 400 * 2 * (3 - 2 * 2) + 2 * (1 - 2) - 200 * (2 - 1 * 1) := by
  rw [rosenNDGradAt_one, rosenNDGradAt_zero]
  norm_num [rosen2dGrad]

end MiniMcmcVerif.Dist
