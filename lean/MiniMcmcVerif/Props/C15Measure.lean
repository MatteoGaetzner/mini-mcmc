import MiniMcmcVerif.Props.C15
import MiniMcmcVerif.Props.C15Rosen
import Mathlib.Probability.Distributions.Gaussian.Real

/-!
# C15 — the proposal's `exp(logp)` is a probability density: it integrates to one
-/

namespace MiniMcmcVerif.Dist

open ProbabilityTheory MeasureTheory

/-- the variance `std²` as a non-negative real -/
noncomputable def varNN (sigma : ℝ) : NNReal := ⟨sigma ^ 2, sq_nonneg sigma⟩

/-- `exp` of the one-coordinate term of `IsotropicGaussian::logp` is Mathlib's Gaussian density with mean `from`
    and variance `std²` … -/
theorem exp_lnNormal_eq_gaussianPDF (f sigma t : ℝ) (hs : sigma ≠ 0) :
    Real.exp (lnNormal f sigma t) = gaussianPDFReal f (varNN sigma) t := by
  have hc : ((varNN sigma : NNReal) : ℝ) = sigma ^ 2 := rfl
  rw [exp_lnNormal f sigma t hs, gaussianPDFReal_def]
  simp only [hc]

/-- … **which integrates to one**: `logp` is a *normalised* log-density (the defect of the original tree,
    `-d/2·ln(π σ⁴)`, made this integral differ from 1). -/
theorem iso_density_integrates_to_one (f sigma : ℝ) (hs : sigma ≠ 0) :
    ∫ t, Real.exp (lnNormal f sigma t) = 1 := by
  have hv : varNN sigma ≠ 0 := fun h => hs (sq_eq_zero_iff.mp (congrArg NNReal.toReal h))
  simp only [exp_lnNormal_eq_gaussianPDF f sigma _ hs]
  exact integral_gaussianPDFReal_eq_one f hv

end MiniMcmcVerif.Dist
