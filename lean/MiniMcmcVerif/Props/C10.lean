import MiniMcmcVerif.Model.Reporter
import MiniMcmcVerif.Props.C09

/-!
# C10 — progress mode returns the same draws and its reporter always terminates
-/

set_option linter.unusedVariables false

namespace MiniMcmcVerif.Reporter
open MiniMcmcVerif.Run

variable {σ ρ : Type}

/-! ### (i) the worker -/

/-- the progress loop is the `run_chain` loop with the list of sent counts carried along. -/
theorem foldl_progBody (step : σ → σ) (obs : σ → ρ) (d total : Nat) (clock : Nat → Bool)
    (acc : (σ × List ρ) × List Nat) (is : List Nat) :
    is.foldl (progBody step obs d total clock) acc
      = (is.foldl (runBody step obs d) acc.1,
         acc.2 ++ (is.filter fun i => clock i || i == total - 1).map (· + 1)) := by
  induction is generalizing acc with
  | nil => simp
  | cons i is ih =>
    rw [List.foldl_cons, ih, List.foldl_cons, List.filter_cons]
    simp only [progBody]
    split <;> simp

/-- **same draws**: progress mode returns exactly the rows (and leaves exactly the chain state) `run_chain` does —
    for every behaviour of the clock and whatever happens to the messages (`send` results are ignored, so a reporter
    that stopped listening changes nothing). -/
theorem progress_rows_eq_run (step : σ → σ) (obs : σ → ρ) (zero : ρ) (c d : Nat) (clock : Nat → Bool) (s : σ) :
    (runChainProgress step obs zero c d clock s).1 = runChain step obs zero c d s :=
  congrArg Prod.fst (foldl_progBody ..)

/-- the counts a worker sends: `i + 1` for the iterations the clock fires on, and always the last one. -/
theorem worker_messages (step : σ → σ) (obs : σ → ρ) (zero : ρ) (c d : Nat) (clock : Nat → Bool) (s : σ) :
    (runChainProgress step obs zero c d clock s).2
      = ((List.range (c + d)).filter fun i => clock i || i == c + d - 1).map (· + 1) :=
  (congrArg Prod.snd (foldl_progBody ..)).trans (List.nil_append _)

/-- **the final message**: with `total ≥ 1` the last count sent is `total`, and `total` is sent exactly once. -/
theorem workers_send_final (step : σ → σ) (obs : σ → ρ) (zero : ρ) (c d : Nat) (clock : Nat → Bool) (s : σ)
    (h : 1 ≤ c + d) :
    (runChainProgress step obs zero c d clock s).2.getLast? = some (c + d)
    ∧ (runChainProgress step obs zero c d clock s).2.count (c + d) = 1 := by
  obtain ⟨t, ht⟩ := Nat.exists_eq_add_of_le' h
  have hlast : (List.filter (fun i => clock i || i == t) [t]) = [t] := by simp
  rw [worker_messages, ht, Nat.add_sub_cancel, List.range_succ, List.filter_append, List.map_append, hlast,
    List.map_cons, List.map_nil]
  refine ⟨List.getLast?_concat .., ?_⟩
  rw [List.count_append, List.count_singleton_self, List.count_eq_zero.mpr]
  -- the counts sent before the last iteration are at most `t`
  intro hmem
  obtain ⟨a, ha, hat⟩ := List.mem_map.mp hmem
  have := List.mem_range.mp (List.mem_filter.mp ha).1
  omega

/-! ### (ii) the reporter -/

section sweep
variable (mr : List (Option Nat)) (total N : Nat) (active : List Nat) (na : Nat)

/-- every shown chain whose final message has been seen is counted. -/
theorem sweep_count : (sweep mr total N active na).2.2 = active.countP (finished mr total ·) := by
  fun_induction sweep mr total N active na <;> simp +zetaDelta [*]

/-- `next_active` advances by one per counted chain until no chain is waiting. -/
theorem sweep_next (hna : na ≤ N) :
    (sweep mr total N active na).2.1 = min N (na + (sweep mr total N active na).2.2) := by
  fun_induction sweep mr total N active na with
  | case1 => exact (Nat.min_eq_right hna).symm
  | case2 a rest na hf hlt r ih => rw [ih hlt, Nat.add_assoc, Nat.add_comm 1]
  | case3 a rest na hf hlt r ih =>
    -- no chain is waiting: `next_active` stays at `N`
    have hN : N ≤ na := Nat.le_of_not_lt hlt
    rw [ih hna, Nat.min_eq_left (Nat.le_add_right_of_le hN), Nat.min_eq_left (Nat.le_add_right_of_le hN)]
  | case4 a rest na hf r ih => exact ih hna

theorem sweep_next_bounds (hna : na ≤ N) :
    na ≤ (sweep mr total N active na).2.1 ∧ (sweep mr total N active na).2.1 ≤ N :=
  sweep_next mr total N active na hna ▸ ⟨Nat.le_min.mpr ⟨hna, Nat.le_add_right ..⟩, Nat.min_le_left ..⟩

/-- a counted chain leaves the list, a chain taken from the waiting ones enters it. -/
theorem sweep_length :
    (sweep mr total N active na).1.length + (sweep mr total N active na).2.2 + na
      = active.length + (sweep mr total N active na).2.1 := by
  fun_induction sweep mr total N active na <;> simp +zetaDelta only [List.length_cons, List.length_nil] <;> omega

/-- if chains are still waiting after the pass, they were before it and every counted chain was replaced: the number
    of shown chains has not changed. -/
theorem sweep_of_waiting (hlt : (sweep mr total N active na).2.1 < N) :
    na < N ∧ (sweep mr total N active na).1.length = active.length := by
  fun_induction sweep mr total N active na with
  | case1 => exact ⟨hlt, rfl⟩
  | case2 a rest na hf hna r ih => exact ⟨hna, congrArg (· + 1) (ih hlt).2⟩
  | case3 a rest na hf hna r ih => exact absurd (ih hlt).1 hna
  | case4 a rest na hf r ih => exact ⟨(ih hlt).1, congrArg (· + 1) (ih hlt).2⟩

/-- the new `active`: the shown chains that are not finished, and the chains taken from the waiting ones. -/
theorem mem_sweep (hna : na ≤ N) (i : Nat) :
    i ∈ (sweep mr total N active na).1
      ↔ i ∈ active.filter (fun j => !finished mr total j) ∨ (na ≤ i ∧ i < (sweep mr total N active na).2.1) := by
  fun_induction sweep mr total N active na with
  | case1 => simp only [List.filter_nil, List.not_mem_nil, false_or, false_iff]; omega
  | case2 a rest na hf hlt r ih =>
    have hlt' : na < r.2.1 := (sweep_next_bounds mr total N rest (na + 1) hlt).1
    have h2 : (na ≤ i ∧ i < r.2.1) ↔ i = na ∨ (na + 1 ≤ i ∧ i < r.2.1) := by omega
    rw [List.filter_cons_of_neg (by rw [hf]; decide), List.mem_cons, ih hlt, h2]
    exact or_left_comm
  | case3 a rest na hf hlt r ih =>
    rw [List.filter_cons_of_neg (by rw [hf]; decide)]
    exact ih hna
  | case4 a rest na hf r ih =>
    rw [List.filter_cons_of_pos (by simpa using hf), List.mem_cons, List.mem_cons, ih hna]
    exact or_assoc.symm

end sweep

/-- facts about one pass over `active`. -/
theorem sweep_spec (mr : List (Option Nat)) (total N : Nat) (active : List Nat) (na : Nat) (hna : na ≤ N) :
    let r := sweep mr total N active na
    r.2.2 = active.countP (finished mr total ·)
    ∧ na ≤ r.2.1 ∧ r.2.1 ≤ N
    ∧ r.2.1 - na = min r.2.2 (N - na)
    ∧ r.1.length + r.2.2 = active.length + (r.2.1 - na)
    ∧ (∀ i ∈ r.1, i ∈ active ∨ (na ≤ i ∧ i < r.2.1))
    ∧ (∀ i, na ≤ i → i < r.2.1 → i ∈ r.1)
    ∧ (∀ i ∈ active, i ∉ r.1 → finished mr total i = true)
    ∧ (∀ i ∈ r.1, i ∈ active → finished mr total i = false ∨ (na ≤ i ∧ i < r.2.1)) := by
  have hb := sweep_next_bounds mr total N active na hna
  have hm := mem_sweep mr total N active na hna
  simp only [List.mem_filter, Bool.not_eq_true'] at hm
  refine ⟨sweep_count mr total N active na, hb.1, hb.2, ?_,
    (Nat.eq_sub_of_add_eq (sweep_length mr total N active na)).trans (Nat.add_sub_assoc hb.1 _),
    fun i hi => ((hm i).mp hi).imp_left And.left, fun i h1 h2 => (hm i).mpr (.inr ⟨h1, h2⟩),
    fun i hi hni => (Bool.eq_false_or_eq_true _).resolve_right fun hf => hni ((hm i).mpr (.inl ⟨hi, hf⟩)),
    fun i hi _ => ((hm i).mp hi).imp_left And.right⟩
  rw [sweep_next mr total N active na hna, ← Nat.sub_min_sub_right, Nat.add_sub_cancel_left, Nat.min_comm]

/-- the bookkeeping invariant: every chain is finished, shown, or still waiting — exactly once. -/
structure Inv (N : Nat) (st : RState) : Prop where
  next_le : st.nextActive ≤ N
  partition : st.nFinished + st.active.length + (N - st.nextActive) = N
  nonempty : st.nextActive < N → st.active ≠ []

/-- `partition` without the subtraction: the chains below `next_active` are the finished and the shown ones. -/
theorem inv_count {N : Nat} {st : RState} (h : Inv N st) : st.nFinished + st.active.length = st.nextActive :=
  Nat.add_right_cancel (h.partition.trans (Nat.add_sub_of_le h.next_le).symm)

theorem inv_of_count {N : Nat} {st : RState} (hle : st.nextActive ≤ N)
    (hc : st.nFinished + st.active.length = st.nextActive) (hne : st.nextActive < N → st.active ≠ []) : Inv N st :=
  ⟨hle, (congrArg (· + (N - st.nextActive)) hc).trans (Nat.add_sub_of_le hle), hne⟩

theorem inv_init (N : Nat) : Inv N (RState.init N) := by
  refine inv_of_count (Nat.min_le_left N 5) ((Nat.zero_add _).trans List.length_range) fun h e => ?_
  have : min N 5 = 0 := List.range_eq_nil.mp e
  change min N 5 < N at h
  omega

/-- **counts once**: the invariant is preserved by every iteration, whatever arrives (`n_finished` is the number of
    chains retired from `active`; no chain is counted twice because a counted chain leaves `active` in the same pass). -/
theorem inv_iter (total N : Nat) (st : RState) (arrivals : List (Nat × Nat)) (h : Inv N st) :
    Inv N (iter total N st arrivals).1 := by
  refine inv_of_count (sweep_next_bounds _ total N _ _ h.next_le).2 ?_ fun hlt e => ?_
  · have := inv_count h
    have := sweep_length (drain st.mostRecent arrivals) total N st.active st.nextActive
    simp only [iter]
    omega
  · obtain ⟨hw, hlen⟩ := sweep_of_waiting _ total N _ _ hlt
    exact h.nonempty hw (List.length_eq_zero_iff.mp (hlen.symm.trans (congrArg List.length e)))

/-- the per-chain soundness invariant: a chain that was shown earlier and is no longer shown had its final message seen. -/
def Retired (total : Nat) (st : RState) : Prop :=
  ∀ i, i < st.nextActive → i ∉ st.active → finished st.mostRecent total i = true

theorem retired_init (total N : Nat) : Retired total (RState.init N) := by
  intro i hi hni
  simp only [RState.init] at hi hni
  exact absurd (List.mem_range.mpr hi) hni

theorem retired_iter (total N : Nat) (st : RState) (arrivals : List (Nat × Nat)) (h : Inv N st)
    (hr : Retired total st)
    (hpersist : ∀ i, finished st.mostRecent total i = true → finished (drain st.mostRecent arrivals) total i = true) :
    Retired total (iter total N st arrivals).1 := by
  intro i hi hni
  -- `i` is neither a shown chain left unfinished nor one of the chains just taken from the waiting ones
  have hm := (mem_sweep (drain st.mostRecent arrivals) total N st.active st.nextActive h.next_le i).not.mp hni
  by_cases hia : i ∈ st.active
  · show finished (drain st.mostRecent arrivals) total i = true
    exact Decidable.by_contra fun hf => hm (.inl (List.mem_filter.mpr ⟨hia, by simpa using hf⟩))
  · exact hpersist i (hr i (Nat.lt_of_not_le fun hle => hm (.inr ⟨hle, hi⟩)) hia)

/-- **exit is sound**: when the loop breaks, every chain's final message (count = `total`) has been seen. -/
theorem reporter_exit_sound (total N : Nat) (st : RState) (h : Inv N st) (hr : Retired total st)
    (hexit : N ≤ st.nFinished) : ∀ i, i < N → finished st.mostRecent total i = true := by
  -- `n_finished + |active| = next_active ≤ N ≤ n_finished`: nothing is shown and nothing is waiting
  have hc := inv_count h
  have hle := h.next_le
  have ha : st.active = [] := List.eq_nil_of_length_eq_zero (by omega)
  intro i hi
  exact hr i (by omega) (ha ▸ List.not_mem_nil)

/-- progress: once every chain's final message is in `most_recent`, one iteration retires **all** shown chains. -/
theorem iter_all_final (total N : Nat) (st : RState) (h : Inv N st)
    (hall : ∀ i, finished st.mostRecent total i = true) :
    (iter total N st []).1.nFinished = st.nFinished + st.active.length
    ∧ (iter total N st []).1.mostRecent = st.mostRecent := by
  refine ⟨?_, rfl⟩
  show st.nFinished + (sweep st.mostRecent total N st.active st.nextActive).2.2 = _
  rw [sweep_count, List.countP_eq_length.mpr fun a _ => hall a]

/-- if retiring every shown chain does not end the loop, chains were still waiting for a bar. -/
theorem waiting_of_not_exit (total N : Nat) (st : RState) (h : Inv N st)
    (hall : ∀ i, finished st.mostRecent total i = true) (hlt : (iter total N st []).1.nFinished < N) :
    st.nextActive < N :=
  (iter_all_final total N st h hall).1.trans (inv_count h) ▸ hlt

/-- The termination argument. Once every final message is in, an iteration retires every shown chain. If at least `r`
    chains are shown as long as any is waiting (`r = 1`: `Inv`; `r = 5`: all bars in use), an iteration that does not
    end the loop retires at least `r` chains, so any `k ≥ 1` iterations with `k · r ≥ N - n_finished` end it. -/
theorem terminates_of_shown (total N r k : Nat) (st : RState) (h : Inv N st)
    (hall : ∀ i, finished st.mostRecent total i = true) (hr : st.nextActive < N → r ≤ st.active.length)
    (hk : 0 < k) (hkr : N ≤ st.nFinished + k * r) : (runIters total N st (List.replicate k [])).2 = true := by
  induction k generalizing st with
  | zero => exact absurd hk (Nat.lt_irrefl 0)
  | succ k ih =>
    rw [List.replicate_succ, runIters]
    split
    · assumption
    · next hex =>
      have hlt : (iter total N st []).1.nFinished < N := Nat.lt_of_not_le fun hle => hex (decide_eq_true hle)
      have hfin := (iter_all_final total N st h hall).1
      have hshown := hr (waiting_of_not_exit total N st h hall hlt)
      rw [Nat.succ_mul] at hkr
      -- an iteration without arrivals leaves `most_recent` as it is (so `hall` still holds), and the number of shown
      -- chains too while any is waiting
      refine ih _ (inv_iter total N st [] h) hall (fun hlt' => ?_) (Nat.pos_of_ne_zero ?_) (by omega)
      · exact (sweep_of_waiting st.mostRecent total N st.active st.nextActive hlt').2 ▸ hshown
      · rintro rfl
        omega

/-- **termination**: for every number of chains (more than the 5 bars included) and every arrival history, once all
    final messages have arrived the loop breaks after at most `N - n_finished + 1` further iterations
    (each iteration retires every shown chain, and `active` is non-empty while anything is left). -/
theorem reporter_terminates (total N : Nat) (st : RState) (h : Inv N st)
    (hall : ∀ i, finished st.mostRecent total i = true) :
    ∃ k, k ≤ N - st.nFinished + 1 ∧ (runIters total N st (List.replicate k [])).2 = true :=
  ⟨_, Nat.le_refl _, terminates_of_shown total N 1 _ st h hall
    (fun hlt => List.length_pos_iff.mpr (h.nonempty hlt)) (Nat.succ_pos _) (by omega)⟩

/-! ### non-vacuity: 7 chains, chain 6 finishes first -/
example :
    let st0 := RState.init 7
    let r1 := iter 10 7 st0 [(6, 10), (0, 3)]
    let r2 := iter 10 7 r1.1 [(0, 10), (1, 10), (2, 10), (3, 10), (4, 10), (5, 10)]
    let r3 := iter 10 7 r2.1 []
    r1.1.active = [0, 1, 2, 3, 4] ∧ r1.2 = false ∧ r2.1.active = [5, 6] ∧ r2.1.nFinished = 5 ∧ r2.2 = false
    ∧ r3.1.active = [] ∧ r3.1.nFinished = 7 ∧ r3.2 = true := by decide

end MiniMcmcVerif.Reporter
