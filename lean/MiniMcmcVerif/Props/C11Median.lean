import MiniMcmcVerif.Props.C11
import MiniMcmcVerif.Props.C11Unbounded
import Mathlib.Data.List.Count

/-!
# C11 — the reported median is an order statistic; the reported variance is non-negative

`basic_stats` sorts descending and reports the element at index `⌊len/2⌋`. For every non-empty input that element `m`
satisfies: at least `⌊len/2⌋ + 1` of the inputs are `≥ m` and at least `len − ⌊len/2⌋` are `≤ m` (the defining property of
the upper median), whatever the input order and however many ties there are.
-/

namespace MiniMcmcVerif.Stats

/-- a sublist all of whose elements satisfy `p` is no longer than the number of elements satisfying `p` -/
theorem length_le_countP {β : Type} {p : β → Bool} {l' l : List β} (hs : l'.Sublist l) (h : ∀ x ∈ l', p x) :
    l'.length ≤ l.countP p :=
  (List.countP_eq_length.mpr h).symm.trans_le (hs.countP_le ..)

section order
variable {α : Type} [LinearOrder α]

/-- in a descending list, everything up to index `k` is `≥` the `k`-th element and everything from `k` on is `≤` it -/
theorem desc_counts (s : List α) (hs : s.Pairwise (· ≥ ·)) (k : Nat) (hk : k < s.length) :
    k + 1 ≤ s.countP (fun x => decide (s[k] ≤ x)) ∧ s.length - k ≤ s.countP (fun x => decide (x ≤ s[k])) := by
  have hget : ∀ i j (hi : i < s.length) (hj : j < s.length), i ≤ j → s[j] ≤ s[i] := fun i j hi hj hij => by
    rcases hij.eq_or_lt with rfl | h
    exacts [le_rfl, List.pairwise_iff_getElem.mp hs i j hi hj h]
  constructor
  · have := length_le_countP (p := fun x => decide (s[k] ≤ x)) (List.take_sublist (k + 1) s) fun x hx => by
      obtain ⟨i, hi, rfl⟩ := List.mem_take_iff_getElem.mp hx
      exact decide_eq_true (hget i k _ hk (Nat.le_of_lt_succ (lt_min_iff.mp hi).1))
    rwa [List.length_take, Nat.min_eq_left hk] at this
  · have := length_le_countP (p := fun x => decide (x ≤ s[k])) (List.drop_sublist k s) fun x hx => by
      obtain ⟨i, hi, rfl⟩ := List.mem_drop_iff_getElem.mp hx
      exact decide_eq_true (hget k (k + i) hk _ (Nat.le_add_right ..))
    rwa [List.length_drop] at this

end order

section field
variable {α : Type} [Field α] [LinearOrder α] [IsStrictOrderedRing α]

/-- **the reported median is the upper median of the inputs** -/
theorem basic_median_spec (l : List α) (hne : l ≠ []) :
    let m := (basicStats l).median
    m ∈ l ∧ l.length / 2 + 1 ≤ l.countP (fun x => decide (m ≤ x)) ∧ l.length - l.length / 2 ≤ l.countP (fun x => decide (x ≤ m)) := by
  intro m
  have hp := sortDesc_perm l
  have hk : l.length / 2 < (sortDesc l).length := by
    rw [hp.length_eq]; exact Nat.div_lt_self (List.length_pos_iff.mpr hne) one_lt_two
  have hm : m = (sortDesc l)[l.length / 2] := by
    show (sortDesc l).getD ((sortDesc l).length / 2) 0 = _
    rw [hp.length_eq, List.getD_eq_getElem?_getD, List.getElem?_eq_getElem hk, Option.getD_some]
  obtain ⟨h1, h2⟩ := desc_counts (sortDesc l) (sortDesc_sorted l) (l.length / 2) hk
  rw [hp.length_eq] at h2
  rw [hm, ← hp.countP_eq, ← hp.countP_eq]
  exact ⟨hp.mem_iff.mp (List.getElem_mem hk), h1, h2⟩

/-- the reported variance (ddof 1) is non-negative, so its square root is defined -/
theorem basic_var_nonneg (l : List α) : 0 ≤ (basicStats l).var :=
  div_nonneg (sumSqDev_nonneg l) (Nat.cast_nonneg _)

end field

example : (basicStats [(3 : ℚ), 1, 2, 2]).median = 2 ∧ (basicStats [(5 : ℚ), 1]).median = 1 := by
  constructor <;> decide +kernel

end MiniMcmcVerif.Stats
