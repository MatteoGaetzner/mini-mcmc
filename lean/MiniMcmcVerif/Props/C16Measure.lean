import MiniMcmcVerif.Props.C16
import Mathlib.MeasureTheory.Measure.Lebesgue.Basic

/-!
# C16 — "samples follow `probs`" as a statement about Lebesgue measure

For non-negative probabilities summing to one, the set of variates `r ∈ [0,1)` that the inverse-CDF scan maps to
category `j` has Lebesgue measure exactly `p_j`.
-/

namespace MiniMcmcVerif.Categorical

open MeasureTheory

/-- a sequence that starts at or below `r` and ends above it crosses `r` in some step -/
theorem exists_crossing (f : Nat → ℝ) (r : ℝ) (n : Nat) (h0 : f 0 ≤ r) (hn : r < f n) :
    ∃ j, j < n ∧ f j ≤ r ∧ r < f (j + 1) := by
  induction n with
  | zero => exact absurd hn (not_lt.mpr h0)
  | succ n ih =>
    by_cases h : r < f n
    · obtain ⟨j, hj, hr⟩ := ih h
      exact ⟨j, Nat.lt_succ_of_lt hj, hr⟩
    · exact ⟨n, Nat.lt_succ_self n, not_lt.mp h, hn⟩

/-- every `r` in `[0, Σp)` lies in a cumulative-sum interval -/
theorem exists_region (probs : List ℝ) (r : ℝ) (h0 : 0 ≤ r) (h1 : r < probs.sum) :
    ∃ j, j < probs.length ∧ (probs.take j).sum ≤ r ∧ r < (probs.take (j + 1)).sum :=
  exists_crossing (fun k => (probs.take k).sum) r probs.length h0 (by rwa [List.take_length])

/-- the preimage of category `j` under the scan, inside `[0, 1)`, is the `j`-th cumulative-sum interval -/
theorem preimage_eq (probs : List ℝ) (hp : ∀ p ∈ probs, 0 ≤ p) (hsum : probs.sum = 1) (j : Nat) (hj : j < probs.length) :
    {r : ℝ | 0 ≤ r ∧ r < 1 ∧ sampleIdx probs r = j} = Set.Ico (probs.take j).sum (probs.take (j + 1)).sum := by
  ext r
  constructor
  · rintro ⟨h0, h1, rfl⟩
    obtain ⟨k, hk, hr⟩ := exists_region probs r h0 (hsum ▸ h1)
    rwa [sample_region probs hp r k hk hr.1 hr.2]
  · rintro ⟨hl, hh⟩
    exact ⟨(List.sum_nonneg fun q hq => hp q (List.mem_of_mem_take hq)).trans hl,
      hh.trans_le (hsum ▸ (List.take_sublist _ _).sum_le_sum hp), sample_region probs hp r j hj hl hh⟩

/-- **category `j` is drawn with probability `p_j`** under a uniform variate on `[0,1)` -/
theorem sample_probability (probs : List ℝ) (hp : ∀ p ∈ probs, 0 ≤ p) (hsum : probs.sum = 1) (j : Nat) (hj : j < probs.length) :
    volume {r : ℝ | 0 ≤ r ∧ r < 1 ∧ sampleIdx probs r = j} = ENNReal.ofReal probs[j] := by
  rw [preimage_eq probs hp hsum j hj, Real.volume_Ico, region_length probs j hj]

end MiniMcmcVerif.Categorical
