import MiniMcmcVerif.Model.Gibbs

/-!
# C05 — a Gibbs step refreshes every coordinate once, conditioning on the freshest state

For every (stateful) conditional `samp`, every state type, every dimension and initial state.
-/

namespace MiniMcmcVerif.Gibbs

variable {S κ : Type}

theorem sweepUpTo_succ (samp : κ → Nat → List S → S × κ) (k : κ) (s : List S) (i : Nat) :
    sweepUpTo samp k s (i + 1) = sweepBody samp (sweepUpTo samp k s i) i := by
  simp [sweepUpTo, List.range_succ, List.foldl_append]

/-- the invariant of the sweep after `i ≤ d` coordinates. -/
theorem sweep_inv (samp : κ → Nat → List S → S × κ) (k : κ) (s : List S) (i : Nat) :
    let st := sweepUpTo samp k s i
    st.state.length = s.length ∧ st.state.drop i = s.drop i ∧ st.log.length = i ∧
    ∀ j (hj : j < st.log.length), st.log[j] = (j, st.state.take j ++ s.drop j) := by
  induction i with
  | zero => exact ⟨rfl, rfl, rfl, fun j hj => absurd hj (Nat.not_lt_zero j)⟩
  | succ i ih =>
    obtain ⟨hlen, hdrop, hlog, hent⟩ := ih
    rw [sweepUpTo_succ]
    generalize sweepUpTo samp k s i = st at *
    refine ⟨by rw [sweepBody, List.length_set, hlen], ?_, by rw [sweepBody, List.length_append, hlog]; rfl,
      fun j hj => ?_⟩
    · rw [sweepBody, List.drop_set_of_lt (Nat.lt_add_one i), ← List.drop_drop, hdrop, List.drop_drop]
    · simp only [sweepBody, List.length_append, List.length_singleton, hlog] at hj ⊢
      rw [List.take_set_of_le (Nat.le_of_lt_succ hj)]
      rcases Nat.lt_succ_iff_lt_or_eq.mp hj with hji | rfl
      · rw [List.getElem_append_left (hlog ▸ hji), hent]
      · rw [List.getElem_append_right (Nat.le_of_eq hlog), ← hdrop, List.take_append_drop]
        simp only [hlog, Nat.sub_self, List.getElem_cons_zero]

/-- **every coordinate exactly once, in order `0,1,…,d-1`**. -/
theorem gibbs_call_indices (samp : κ → Nat → List S → S × κ) (k : κ) (s : List S) :
    (gibbsStep samp k s).log.map (·.1) = List.range s.length := by
  obtain ⟨_, _, hlog, hent⟩ := sweep_inv samp k s s.length
  refine List.ext_getElem (by rw [List.length_map, List.length_range]; exact hlog) fun j h1 _ => ?_
  rw [List.length_map] at h1
  rw [List.getElem_map, List.getElem_range]
  exact congrArg Prod.fst (hent j h1)

/-- **conditioning on the freshest state**: the `j`-th call receives the state in which coordinates `< j` already
    hold their *new* values (those of the final state) and coordinates `≥ j` still hold the old ones. -/
theorem gibbs_call_log (samp : κ → Nat → List S → S × κ) (k : κ) (s : List S) :
    let r := gibbsStep samp k s
    r.log.length = s.length ∧
    ∀ j (hj : j < r.log.length), r.log[j] = (j, r.state.take j ++ s.drop j) :=
  (sweep_inv samp k s s.length).2.2

/-- the dimension is preserved. -/
theorem gibbs_result_length (samp : κ → Nat → List S → S × κ) (k : κ) (s : List S) :
    (gibbsStep samp k s).state.length = s.length :=
  (sweep_inv samp k s s.length).1

/-- sub-step `i` writes the conditional's answer to coordinate `i` and changes nothing else. -/
theorem substep_changes_only_i (samp : κ → Nat → List S → S × κ) (acc : Sweep S κ) (i j : Nat) (hij : j ≠ i) :
    (sweepBody samp acc i).state[j]? = acc.state[j]? := by
  simp only [sweepBody]
  rw [List.getElem?_set_ne (Ne.symm hij)]

theorem substep_writes_answer (samp : κ → Nat → List S → S × κ) (acc : Sweep S κ) (i : Nat) (hi : i < acc.state.length) :
    (sweepBody samp acc i).state[i]? = some (samp acc.cond i acc.state).1 := by
  simp [sweepBody, hi]

/-- the result is exactly the list of returned values: coordinate `j` of the new state is what call `j` returned. -/
theorem gibbs_result (samp : κ → Nat → List S → S × κ) (k : κ) (s : List S) (j : Nat) (hj : j < s.length) :
    (gibbsStep samp k s).state[j]? =
      some (samp (sweepUpTo samp k s j).cond j (sweepUpTo samp k s j).state).1 := by
  -- coordinate j is written at sub-step j and never touched afterwards
  have hj' : j < (sweepUpTo samp k s j).state.length := by rw [(sweep_inv samp k s j).1]; exact hj
  unfold gibbsStep
  generalize s.length = n at hj
  induction hj with
  | refl => rw [sweepUpTo_succ]; exact substep_writes_answer samp _ j hj'
  | @step i hi ih => rw [sweepUpTo_succ, substep_changes_only_i samp _ i j (Nat.ne_of_lt hi), ih]

/-! ### non-vacuity: d = 3, a conditional that sums what it is given and counts its calls -/

example :
    let r := gibbsStep (fun (k : Nat) i (g : List Nat) => (g.sum + 10 * i + k, k + 1)) 0 [1, 2, 3]
    r.state = [6, 22, 53] ∧ r.cond = 3 ∧
    r.log = [(0, [1, 2, 3]), (1, [6, 2, 3]), (2, [6, 22, 3])] := by decide

end MiniMcmcVerif.Gibbs
