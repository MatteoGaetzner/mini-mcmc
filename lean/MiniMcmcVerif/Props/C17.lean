import MiniMcmcVerif.Model.IO
import MiniMcmcVerif.Props.C18

/-!
# C17 — export writers: one row per (chain, observation) cell, documented labels, exactly the stored values
-/

set_option linter.unusedVariables false

namespace MiniMcmcVerif.IO

variable {α β : Type}

theorem length_flatMap_const (f : Nat → List β) (N : Nat) (hN : ∀ c, (f c).length = N) (C : Nat) :
    ((List.range C).flatMap f).length = C * N := by
  induction C with
  | zero => simp
  | succ C ih => rw [List.range_succ, List.flatMap_append, List.length_append, ih]; simp [hN, Nat.succ_mul]

/-- indexing a `flatMap` whose blocks all have length `N`. -/
theorem getElem_flatMap_const (f : Nat → List β) (N : Nat) (hN : ∀ c, (f c).length = N) (C c o : Nat)
    (hc : c < C) (ho : o < N) (h : c * N + o < ((List.range C).flatMap f).length) :
    ((List.range C).flatMap f)[c * N + o] = (f c)[o]'(by rw [hN]; exact ho) := by
  induction C with
  | zero => exact absurd hc (Nat.not_lt_zero c)
  | succ C ih =>
    have hlen := length_flatMap_const f N hN C
    simp only [List.range_succ, List.flatMap_append, List.flatMap_cons, List.flatMap_nil, List.append_nil]
    rcases Nat.lt_succ_iff_lt_or_eq.mp hc with hcC | rfl
    · have hlt : c * N + o < ((List.range C).flatMap f).length := hlen ▸ mul_add_lt hcC ho
      rw [List.getElem_append_left hlt]
      exact ih hcC hlt
    · rw [List.getElem_append_right (hlen ▸ Nat.le_add_right _ _)]
      simp only [hlen, Nat.add_sub_cancel_left]

/-- the slice taken for cell `(c, o)` lies inside a buffer of `C·N·K` elements: the writers never index out of bounds. -/
theorem offset_in_bounds (C N K c o : Nat) (hc : c < C) (ho : o < N) :
    c * N * K + o * K + K ≤ C * N * K := by
  have := Nat.mul_le_mul_right K (mul_add_lt hc ho)
  rwa [Nat.succ_mul, Nat.add_mul] at this

/-- the flat offset map `(c, o, d) ↦ c·N·K + o·K + d` is injective on the index box: no element is exported twice,
    and (with `offset_in_bounds` and the row count) every element exactly once. -/
theorem offset_injective (N K c o d c' o' d' : Nat) (ho : o < N) (hd : d < K) (ho' : o' < N) (hd' : d' < K)
    (h : c * N * K + o * K + d = c' * N * K + o' * K + d') : c = c' ∧ o = o' ∧ d = d' := by
  rw [← Nat.add_mul, ← Nat.add_mul] at h
  obtain ⟨h1, hd⟩ := mul_add_inj hd hd' h
  obtain ⟨hc, ho⟩ := mul_add_inj ho ho' h1
  exact ⟨hc, ho, hd⟩

/-- the offset map is **onto** the buffer: every element `k < C·N·K` of the row-major buffer is the `dim_d` entry of some
    cell `(c, o)` of the index box — together with `offset_injective`, every element is exported exactly once. -/
theorem offset_surjective (C N K k : Nat) (hk : k < C * N * K) :
    ∃ c o d, c < C ∧ o < N ∧ d < K ∧ c * N * K + o * K + d = k := by
  have hK : 0 < K := Nat.pos_of_lt_mul_left hk
  have hkK : k / K < N * C := Nat.div_lt_of_lt_mul (by rwa [Nat.mul_comm K, Nat.mul_comm N])
  refine ⟨k / K / N, k / K % N, k % K, Nat.div_lt_of_lt_mul hkK, Nat.mod_lt _ (Nat.pos_of_lt_mul_right hkK),
    Nat.mod_lt _ hK, ?_⟩
  rw [← Nat.add_mul, Nat.div_add_mod', Nat.div_add_mod']

/-- exactly `C·N` rows (also for zero-sized axes). -/
theorem rows_count (C N K : Nat) (flat : List α) : (rowsChainMajor C N K flat).length = C * N := by
  unfold rowsChainMajor
  exact length_flatMap_const _ N (by intro c; simp) C

/-- **row `(c, o)`** sits at position `c·N + o` (chain-major order), carries the labels `(c, o)` and its `dim_d` entry
    is element `(c, o, d)` of the row-major array. -/
theorem rows_spec (C N K : Nat) (flat : List α) (hflat : flat.length = C * N * K) (c o : Nat) (hc : c < C) (ho : o < N) :
    ∃ h : c * N + o < (rowsChainMajor C N K flat).length,
      (rowsChainMajor C N K flat)[c * N + o] = ⟨c, o, slice flat (c * N * K + o * K) K⟩
      ∧ (slice flat (c * N * K + o * K) K).length = K
      ∧ ∀ d (hd : d < K), (slice flat (c * N * K + o * K) K)[d]? = flat[c * N * K + o * K + d]? := by
  refine ⟨rows_count C N K flat ▸ mul_add_lt hc ho, ?_, ?_, fun d hd => ?_⟩
  · unfold rowsChainMajor
    rw [getElem_flatMap_const _ N (by intro c; simp) C c o hc ho]
    simp
  · exact List.length_take_of_le (by
      rw [List.length_drop, hflat]; exact Nat.le_sub_of_add_le' (offset_in_bounds C N K c o hc ho))
  · rw [slice, List.getElem?_take, if_pos hd, List.getElem?_drop]

/-- parquet's tensor layout is the csv one with the roles of the two outer axes exchanged. -/
theorem rowsObsMajor_eq (N C K : Nat) (flat : List α) : rowsObsMajor N C K flat = rowsChainMajor N C K flat := rfl

theorem rows_obs_major_count (N C K : Nat) (flat : List α) : (rowsObsMajor N C K flat).length = N * C :=
  rowsObsMajor_eq N C K flat ▸ rows_count N C K flat

/-- the observation-major twin (`save_parquet_tensor`: tensor `[observation, chain, dim]`, labels `(observation, chain)`). -/
theorem rows_obs_major_spec (N C K : Nat) (flat : List α) (hflat : flat.length = N * C * K) (o c : Nat) (ho : o < N) (hc : c < C) :
    ∃ h : o * C + c < (rowsObsMajor N C K flat).length,
      (rowsObsMajor N C K flat)[o * C + c] = ⟨o, c, slice flat (o * C * K + c * K) K⟩
      ∧ (slice flat (o * C * K + c * K) K).length = K
      ∧ ∀ d (hd : d < K), (slice flat (o * C * K + c * K) K)[d]? = flat[o * C * K + c * K + d]? :=
  rowsObsMajor_eq N C K flat ▸ rows_spec N C K flat hflat o c ho hc

theorem length_dimNames (K : Nat) : (dimNames K).length = K := by
  rw [dimNames, List.length_map, List.length_range]

/-- header: `chain, observation, dim_0 … dim_{K-1}` — `2 + K` columns. -/
theorem header_spec (K : Nat) : (header K).length = 2 + K ∧ (header K)[0]? = some "chain" ∧ (header K)[1]? = some "observation"
    ∧ ∀ d, d < K → (header K)[2 + d]? = some ("dim_" ++ toString d) := by
  refine ⟨by rw [header, List.length_append, length_dimNames]; rfl, rfl, rfl, fun d hd => ?_⟩
  rw [Nat.add_comm]
  show (dimNames K)[d]? = _
  rw [dimNames, List.getElem?_map, List.getElem?_range hd]
  rfl

theorem header_obs_major_spec (K : Nat) : (headerObsMajor K).length = 2 + K ∧ (headerObsMajor K)[0]? = some "observation"
    ∧ (headerObsMajor K)[1]? = some "chain" :=
  ⟨by rw [headerObsMajor, List.length_append, length_dimNames]; rfl, rfl, rfl⟩

/-! non-vacuity -/
example : rowsChainMajor 2 2 2 [0, 1, 2, 3, 4, 5, 6, 7]
    = [⟨0, 0, [0, 1]⟩, ⟨0, 1, [2, 3]⟩, ⟨1, 0, [4, 5]⟩, ⟨1, 1, [6, 7]⟩] := by decide
example : rowsObsMajor 2 1 3 [0, 1, 2, 3, 4, 5] = [⟨0, 0, [0, 1, 2]⟩, ⟨1, 0, [3, 4, 5]⟩] := by decide
example : rowsChainMajor 0 5 3 ([] : List Nat) = [] ∧ rowsChainMajor 2 0 3 ([] : List Nat) = [] := by decide
example : rowsArray3 [[[1, 2], [3, 4]], [[5, 6], [7, 8]]] = rowsChainMajor 2 2 2 [1, 2, 3, 4, 5, 6, 7, 8] := by decide

end MiniMcmcVerif.IO
