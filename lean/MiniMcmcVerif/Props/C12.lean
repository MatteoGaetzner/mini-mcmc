import MiniMcmcVerif.Props.StatsBasic
import Mathlib.Data.List.GetD

/-!
# C12 — ESS = M·N/τ with Geyer's monotone sequence, whichever autocovariance path runs
-/

set_option linter.unusedSectionVars false
set_option linter.unusedVariables false

namespace MiniMcmcVerif.Stats

/-! ### the FFT padding length -/

theorem npadGo_spec (target fuel k : Nat) (hfuel : target ≤ 2 ^ k * 2 ^ fuel) :
    ∃ j, npadGo target fuel (2 ^ k) = 2 ^ j ∧ target ≤ 2 ^ j := by
  induction fuel generalizing k with
  | zero => exact ⟨k, rfl, by rwa [pow_zero, mul_one] at hfuel⟩
  | succ fuel ih =>
    simp only [npadGo]
    split
    · rw [← pow_succ]
      exact ih (k + 1) (by rwa [pow_succ', ← mul_assoc, ← pow_succ] at hfuel)
    · next h => exact ⟨k, rfl, Nat.le_of_not_lt h⟩

/-- **padding**: the length chosen for the FFT is a power of two `≥ 2n - 1` (so circular wrap-around cannot reach
    lags `< n`). -/
theorem npad_spec (n : Nat) : ∃ j, npad n = 2 ^ j ∧ 2 * n - 1 ≤ npad n := by
  obtain ⟨j, h1, h2⟩ := npadGo_spec (2 * n - 1) (2 * n) 0
    (by rw [pow_zero, one_mul]; exact (Nat.sub_le ..).trans Nat.lt_two_pow_self.le)
  exact ⟨j, h1, h2.trans_eq h1.symm⟩

section autocov
variable {α : Type} [Field α]

theorem sum_range_zero_tail (f : Nat → α) {a n : Nat} (han : a ≤ n) (h : ∀ t, a ≤ t → t < n → f t = 0) :
    ((List.range n).map f).sum = ((List.range a).map f).sum := by
  induction n, han using Nat.le_induction with
  | base => rfl
  | succ n han ih =>
    rw [List.range_succ, List.map_append, List.sum_append, ih fun t h1 h2 => h t h1 (Nat.lt_succ_of_lt h2),
      List.map_singleton, List.sum_singleton, h n han n.lt_succ_self, add_zero]

theorem zipWith_drop_eq (c : List α) (lag : Nat) :
    List.zipWith (· * ·) c (c.drop lag) = (List.range (c.length - lag)).map fun t => c.getD t 0 * c.getD (t + lag) 0 := by
  apply List.ext_getElem
  · rw [List.length_zipWith, List.length_drop, List.length_map, List.length_range, Nat.min_eq_right (Nat.sub_le ..)]
  · intro i h1 h2
    rw [List.length_zipWith, List.length_drop, lt_min_iff] at h1
    simp only [List.getElem_zipWith, List.getElem_drop, List.getElem_map, List.getElem_range,
      List.getD_eq_getElem c 0 h1.1, List.getD_eq_getElem c 0 (Nat.add_lt_of_lt_sub h1.2), Nat.add_comm lag]

theorem length_centre (xs : List α) : (centre xs).length = xs.length := List.length_map _

theorem padded_eq (c : List α) (t : Nat) : padded c t = c.getD t 0 := by
  unfold padded
  split
  · rfl
  · next h => exact (List.getD_eq_default _ _ (Nat.le_of_not_lt h)).symm

/-- **the two autocovariance paths compute the same function**: for a padded length `np ≥ 2n - 1` and every lag `< n`
    the circular correlation of the zero-padded sequence equals the linear (brute-force) one. -/
theorem circ_eq_linear (c : List α) (np lag : Nat) (hnp : 2 * c.length - 1 ≤ np) (hlag : lag < c.length) :
    ((List.range np).map fun t => padded c t * padded c ((t + lag) % np)).sum
      = (List.zipWith (· * ·) c (c.drop lag)).sum := by
  -- `n + lag ≤ np`, so `t + lag` never wraps where `c[t] ≠ 0`; the terms with `t ≥ n - lag` vanish
  have hnl : c.length + lag ≤ np := by omega
  have hn : c.length ≤ np := Nat.le_of_add_right_le hnl
  simp only [padded_eq]
  rw [zipWith_drop_eq, sum_range_zero_tail _ ((Nat.sub_le ..).trans hn)]
  · refine congrArg _ (List.map_congr_left fun t ht => ?_)
    rw [Nat.mod_eq_of_lt ((Nat.add_lt_of_lt_sub (List.mem_range.mp ht)).trans_le hn)]
  · intro t h1 h2
    rcases Nat.lt_or_ge t c.length with ht | ht
    · rw [Nat.mod_eq_of_lt ((Nat.add_lt_add_right ht lag).trans_le hnl),
        List.getD_eq_default _ _ (Nat.sub_le_iff_le_add.mp h1), mul_zero]
    · rw [List.getD_eq_default _ _ ht, zero_mul]

/-- `autocov_fft`'s value (by the DFT correlation identity) equals `autocov_bf`'s, lag by lag. -/
theorem autocovCirc_eq_autocovBF (xs : List α) : autocovCirc xs = autocovBF xs := by
  unfold autocovCirc autocovBF
  refine List.map_congr_left fun lag hlag => ?_
  have hc := length_centre xs
  rw [sum_eq, sum_eq, circ_eq_linear (centre xs) (npad xs.length) lag
    (by rw [hc]; exact (npad_spec xs.length).choose_spec.2) (by rw [hc]; exact List.mem_range.mp hlag)]

/-- hence the 100-row switch does not change the function. -/
theorem autocov_eq_autocovBF (xs : List α) : autocov xs = autocovBF xs := by
  unfold autocov; split
  · rfl
  · exact autocovCirc_eq_autocovBF xs

end autocov

section geyer
variable {α : Type} [Field α] [LinearOrder α] [IsStrictOrderedRing α]

/-- running minimum of a sequence, seeded with `m` -/
def runMin : List α → α → List α
  | [], _ => []
  | p :: ps, m => min p m :: runMin ps (min p m)

/-- **Geyer's initial positive monotone sequence**: what the loop accumulates is the running minimum of the maximal
    prefix of strictly positive pair sums. -/
theorem geyerSeq_eq (ps : List α) (mn : α) : geyerSeq ps mn = runMin (ps.takeWhile (0 < ·)) mn := by
  induction ps generalizing mn with
  | nil => rfl
  | cons p ps ih =>
    have e : (if mn < p then mn else p) = min p mn := by rw [min_comm, min_def_lt]
    by_cases hp : p ≤ 0
    · simp only [geyerSeq, hp, List.takeWhile_cons, not_lt.mpr hp, decide_false, Bool.false_eq_true, ↓reduceIte, runMin]
    · simp only [geyerSeq, hp, List.takeWhile_cons, not_le.mp hp, decide_true, ↓reduceIte, runMin, e, ih]

/-- the loop's result is the running total plus the sum of that sequence. -/
theorem geyer_eq_sum (ps : List α) (mn out : α) : geyer ps mn out = out + (geyerSeq ps mn).sum := by
  induction ps generalizing mn out with
  | nil => exact (add_zero out).symm
  | cons p ps ih =>
    by_cases hp : p ≤ 0
    · simp only [geyer, geyerSeq, hp, ↓reduceIte, List.sum_nil, add_zero]
    · simp only [geyer, geyerSeq, hp, ↓reduceIte, ih, List.sum_cons, add_assoc]

/-- the running minimum of positive numbers below a positive seed is positive, below the seed and non-increasing -/
theorem runMin_pos_antitone (l : List α) (m : α) (hl : ∀ x ∈ l, 0 < x) (hm : 0 < m) :
    (∀ x ∈ runMin l m, 0 < x ∧ x ≤ m) ∧ (runMin l m).Pairwise (· ≥ ·) := by
  induction l generalizing m with
  | nil => exact ⟨fun _ h => (List.not_mem_nil h).elim, List.Pairwise.nil⟩
  | cons p ps ih =>
    have hpos : 0 < min p m := lt_min (hl p List.mem_cons_self) hm
    obtain ⟨h1, h2⟩ := ih (min p m) (fun x hx => hl x (List.mem_cons_of_mem _ hx)) hpos
    refine ⟨fun x hx => ?_, List.pairwise_cons.mpr ⟨fun x hx => (h1 x hx).2, h2⟩⟩
    rcases List.mem_cons.mp hx with rfl | hx
    · exact ⟨hpos, min_le_right ..⟩
    · exact ⟨(h1 x hx).1, (h1 x hx).2.trans (min_le_right ..)⟩

/-- the summed sequence is **positive** and **non-increasing** (given a positive seed; the code seeds with the first
    pair sum itself, so the first term is that pair sum). -/
theorem geyerSeq_pos_antitone (ps : List α) (mn : α) (hmn : 0 < mn) :
    (∀ x ∈ geyerSeq ps mn, 0 < x ∧ x ≤ mn) ∧ (geyerSeq ps mn).Pairwise (· ≥ ·) := by
  rw [geyerSeq_eq]
  exact runMin_pos_antitone _ mn (fun x hx => of_decide_eq_true (List.all_eq_true.mp List.all_takeWhile x hx)) hmn

/-- **τ = −1 + 2·Σ (Geyer sequence)** and **ESS = M·N/τ**: the third component of `essWith` is `(1/τ)·M·N` with
    `τ` the second component, and `τ` is `-1 + 2·Σ` of the sequence characterised above. -/
theorem tau_eq (acov : List α → List α) (data : List (List α)) (w v : α) :
    let r := essWith acov data w v
    let ps := pairSums r.1
    let mn0 : α := if 2 ≤ r.1.length then r.1.getD 0 0 + r.1.getD 1 0 else 0
    r.2.1 = -1 + 2 * (geyerSeq ps mn0).sum
    ∧ r.2.2 = (1 / r.2.1) * (data.length : α) * ((data.headD []).length : α) := by
  simp only [essWith, geyer_eq_sum, Nat.cast_one, Nat.cast_ofNat, zero_add, zero_sub, and_self]

/-- whichever autocovariance path is selected, `ess` is the same function of the data. -/
theorem ess_path_independent (data : List (List α)) (w v : α) :
    essWith autocov data w v = essWith autocovBF data w v := by
  have : (autocov : List α → List α) = autocovBF := funext autocov_eq_autocovBF
  rw [this]

end geyer

/-! ### non-vacuity -/
example : npad 5 = 16 ∧ npad 1 = 1 ∧ npad 101 = 256 := by decide
example : autocovCirc [(1 : ℚ), 3, 2, 6] = autocovBF [(1 : ℚ), 3, 2, 6] := autocovCirc_eq_autocovBF _
example : geyerSeq [(3 : ℚ), 5, 1, -1, 4] 3 = [3, 3, 1] := by decide +kernel

end MiniMcmcVerif.Stats
