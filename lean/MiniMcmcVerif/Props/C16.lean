import MiniMcmcVerif.Model.Categorical
import Mathlib.Algebra.Order.Field.Basic
import Mathlib.Algebra.BigOperators.Group.List.Basic
import Mathlib.Algebra.BigOperators.Ring.List
import Mathlib.Algebra.Order.BigOperators.Group.List

/-!
# C16 — Categorical: normalised probabilities, samples in range, never a zero-probability category

`sample_pos_prob` is proved over an *arbitrary carrier* (no algebra assumed beyond the two facts listed as hypotheses),
so it applies verbatim to IEEE floats, absorption of small addends included.
-/

set_option linter.unusedSectionVars false

namespace MiniMcmcVerif.Categorical

section carrier
variable {α : Type} [Add α] [LT α] [DecidableLT α] [OfNat α 0]

theorem lastPos_pos (probs : List α) (k : Nat) (h : lastPos probs = some k) :
    ∃ hk : k < probs.length, (0 : α) < probs[k] := by
  fun_induction lastPos probs generalizing k with
  | case1 => cases h
  | case2 p ps k' hk' ih =>
    cases h
    obtain ⟨hk, hp⟩ := ih k' hk'
    exact ⟨Nat.succ_lt_succ hk, hp⟩
  | case3 p ps hn hp => cases h; exact ⟨Nat.zero_lt_succ _, hp⟩
  | case4 p ps hn hp => cases h

theorem lastPos_none (probs : List α) (h : lastPos probs = none) : ∀ p ∈ probs, ¬ (0 : α) < p := by
  fun_induction lastPos probs with
  | case1 => simp
  | case2 p ps k' hk' => cases h
  | case3 p ps hn hp => cases h
  | case4 p ps hn hp ih => exact List.forall_mem_cons.mpr ⟨hp, ih hn⟩

/-- where the scan breaks: at an entry that lifts above `r` a running sum `c` which `r` was not below (provided it was
    not below the initial one). No algebra is assumed of `+` and `<`. -/
theorem scan_some (r : α) (probs : List α) (cum : α) (i k : Nat) (h : scan r probs cum i = some k) :
    ∃ j, ∃ hj : j < probs.length, ∃ c, k = i + j ∧ (¬ r < cum → ¬ r < c) ∧ r < c + probs[j] := by
  fun_induction scan r probs cum i with
  | case1 => cases h
  | case2 p ps cum i cum' hlt => cases h; exact ⟨0, Nat.zero_lt_succ _, cum, rfl, id, hlt⟩
  | case3 p ps cum i cum' hn ih =>
    obtain ⟨j, hj, c, rfl, hc, hlt⟩ := ih h
    exact ⟨j + 1, Nat.succ_lt_succ hj, c, Nat.succ_add_eq_add_succ i j, fun _ => hc hn, hlt⟩

/-- the scan never breaks at a zero-probability entry: needs only that adding zero does not change what `r` is
    below (`r < x + 0 → r < x`, true of IEEE addition) and that `r` was not already below the running sum. -/
theorem scan_pos (r : α) (hadd0 : ∀ x : α, r < x + 0 → r < x)
    (probs : List α) (hprobs : ∀ p ∈ probs, p = 0 ∨ (0 : α) < p)
    (cum : α) (hcum : ¬ r < cum) (i k : Nat) (h : scan r probs cum i = some k) :
    ∃ j, ∃ hj : j < probs.length, k = i + j ∧ (0 : α) < probs[j] := by
  obtain ⟨j, hj, c, e, hc, hlt⟩ := scan_some r probs cum i k h
  exact ⟨j, hj, e, (hprobs _ (List.getElem_mem hj)).resolve_left fun h0 => hc hcum (hadd0 c (h0 ▸ hlt))⟩

/-- the sampled index is where the scan broke, else the last positive entry, else `len - 1`. -/
theorem sampleIdx_cases (probs : List α) (r : α) :
    scan r probs 0 0 = some (sampleIdx probs r) ∨ lastPos probs = some (sampleIdx probs r)
      ∨ lastPos probs = none ∧ sampleIdx probs r = probs.length - 1 := by
  unfold sampleIdx fallback
  cases scan r probs 0 0 with
  | some k => exact .inl rfl
  | none => cases lastPos probs with
    | some k => exact .inr (.inl rfl)
    | none => exact .inr (.inr ⟨rfl, rfl⟩)

/-- **sampling stays in range**, for every variate `r`. -/
theorem sample_in_range (probs : List α) (r : α) (hne : probs ≠ []) : sampleIdx probs r < probs.length := by
  rcases sampleIdx_cases probs r with h | h | ⟨-, h⟩
  · obtain ⟨j, hj, -, e, -⟩ := scan_some r probs 0 0 _ h
    rwa [e, Nat.zero_add]
  · exact (lastPos_pos probs _ h).1
  · rw [h]
    exact Nat.sub_one_lt (List.length_pos_iff.mpr hne).ne'

/-- **never a zero-probability category**: for *every* variate `r` that is not below zero (every uniform variate,
    exactly `0` and `1 - ulp` included), if every entry is `0` or positive and some entry is positive, the sampled
    category has positive probability. -/
theorem sample_pos_prob (probs : List α) (r : α)
    (hr : ¬ r < (0 : α)) (hadd0 : ∀ x : α, r < x + 0 → r < x)
    (hprobs : ∀ p ∈ probs, p = 0 ∨ (0 : α) < p) (hsome : ∃ p ∈ probs, (0 : α) < p)
    (hlt : sampleIdx probs r < probs.length) :
    (0 : α) < probs[sampleIdx probs r] := by
  rcases sampleIdx_cases probs r with h | h | ⟨h, -⟩
  · obtain ⟨j, hj, e, hpos⟩ := scan_pos r hadd0 probs hprobs 0 hr 0 _ h
    simpa only [e, Nat.zero_add] using hpos
  · exact (lastPos_pos probs _ h).2
  · obtain ⟨p, hp, hpos⟩ := hsome
    exact absurd hpos (lastPos_none probs h p hp)

end carrier

section field
variable {α : Type} [Field α] [LinearOrder α] [IsStrictOrderedRing α]

omit [LinearOrder α] [IsStrictOrderedRing α] in
theorem total_eq_sum (ws : List α) : total ws = ws.sum :=
  List.sum_eq_foldl.symm

/-- the code's running sum `cum += p` does not decrease over non-negative entries -/
theorem le_foldl_add (l : List α) (hl : ∀ q ∈ l, 0 ≤ q) (c : α) : c ≤ l.foldl (· + ·) c := by
  induction l generalizing c with
  | nil => exact le_rfl
  | cons q l ih =>
    have hq := List.forall_mem_cons.mp hl
    exact (le_add_of_nonneg_right hq.1).trans (ih hq.2 (c + q))

/-- **normalisation**: the stored probabilities sum to one (any field, total weight non-zero). -/
theorem normalize_sum_one (ws : List α) (h : ws.sum ≠ 0) : (normalize ws).sum = 1 := by
  simp only [normalize, total_eq_sum, div_eq_mul_inv, List.sum_map_mul_right, List.map_id', mul_inv_cancel₀ h]

theorem normalize_nonneg (ws : List α) (hw : ∀ w ∈ ws, 0 ≤ w) : ∀ p ∈ normalize ws, 0 ≤ p := by
  intro p hp
  obtain ⟨w, hw', rfl⟩ := List.mem_map.mp hp
  exact div_nonneg (hw w hw') (le_foldl_add ws hw 0)

/-- scan characterisation in exact arithmetic: if the running sum (started at `cum`) is still `≤ r` after `j` entries and
    exceeds `r` after `j + 1`, the scan stops at entry `j`. -/
theorem scan_region (r : α) (probs : List α) (hp : ∀ p ∈ probs, 0 ≤ p) (cum : α) (i j : Nat)
    (hj : j < probs.length)
    (hlow : (probs.take j).foldl (· + ·) cum ≤ r) (hhigh : r < (probs.take (j + 1)).foldl (· + ·) cum) :
    scan r probs cum i = some (i + j) := by
  -- `scan`, `take` and `foldl` recurse alike: on `p :: ps` both hypotheses are, as they stand, those for `ps` from `cum + p`
  induction probs generalizing cum i j with
  | nil => cases hj
  | cons p ps ih =>
    cases j with
    | zero => exact if_pos hhigh
    | succ j =>
      have hps := (List.forall_mem_cons.mp hp).2
      have hn : ¬ r < cum + p :=
        not_lt.mpr ((le_foldl_add (ps.take j) (fun q hq => hps q (List.mem_of_mem_take hq)) (cum + p)).trans hlow)
      rw [← Nat.succ_add_eq_add_succ, ← ih hps (cum + p) (i + 1) j (Nat.lt_of_succ_lt_succ hj) hlow hhigh]
      exact if_neg hn

/-- **samples follow `probs`** (exact arithmetic): the set of variates mapped to category `j` is exactly the
    interval `[c_{j-1}, c_j)` of the cumulative sums, whose length is `p_j`. Hence under a uniform variate category
    `j` is drawn with probability `p_j`. -/
theorem sample_region (probs : List α) (hp : ∀ p ∈ probs, 0 ≤ p) (r : α) (j : Nat) (hj : j < probs.length)
    (hlow : (probs.take j).sum ≤ r) (hhigh : r < (probs.take (j + 1)).sum) :
    sampleIdx probs r = j := by
  rw [sampleIdx, scan_region r probs hp 0 0 j hj ((total_eq_sum _).trans_le hlow) (hhigh.trans_eq (total_eq_sum _).symm),
    Nat.zero_add]
  rfl

omit [LinearOrder α] [IsStrictOrderedRing α] in
theorem region_length (probs : List α) (j : Nat) (hj : j < probs.length) :
    (probs.take (j + 1)).sum - (probs.take j).sum = probs[j] := by
  rw [List.sum_take_succ _ _ hj, add_sub_cancel_left]

omit [LinearOrder α] [IsStrictOrderedRing α] in
/-- **proportionality**: the stored probability of category `i` is its weight divided by the total weight. -/
theorem normalize_getElem (ws : List α) (i : Nat) (hi : i < ws.length) :
    (normalize ws)[i]'(by simpa [normalize] using hi) = ws[i] / ws.sum := by
  simp only [normalize, total_eq_sum, List.getElem_map]

omit [LinearOrder α] [IsStrictOrderedRing α] in
/-- a category has stored probability zero exactly when its weight is zero: normalisation neither creates nor removes
    zero-probability categories (so "never a zero-probability category" is "never a zero-weight category"). -/
theorem normalize_zero_iff (ws : List α) (h : ws.sum ≠ 0) (i : Nat) (hi : i < ws.length) :
    (normalize ws)[i]'(by simpa [normalize] using hi) = 0 ↔ ws[i] = 0 := by
  rw [normalize_getElem ws i hi, div_eq_zero_iff, or_iff_left h]

omit [LinearOrder α] [IsStrictOrderedRing α] in
/-- normalisation is invariant under rescaling of all weights by a non-zero constant (unnormalised weights). -/
theorem normalize_scale (ws : List α) (c : α) (hc : c ≠ 0) : normalize (ws.map (c * ·)) = normalize ws := by
  unfold normalize
  rw [total_eq_sum, total_eq_sum, List.map_map, List.sum_map_mul_left]
  apply List.map_congr_left
  intro w _
  simp only [Function.comp, List.map_id']
  rw [mul_div_mul_left _ _ hc]

end field

/-! ### non-vacuity -/
example : sampleIdx [(0 : Rat), 1/4, 0, 3/4, 0] 0 = 1 ∧ sampleIdx [(0 : Rat), 1/4, 0, 3/4, 0] (1/4) = 3
    ∧ sampleIdx [(0 : Rat), 1/4, 0, 3/4, 0] 1 = 3 ∧ sampleIdx [(0 : Rat), 1/4, 0, 3/4, 0] (999/1000) = 3 := by
  decide +kernel
example : normalize [(2 : Rat), 0, 6] = [1/4, 0, 3/4] := by decide +kernel

end MiniMcmcVerif.Categorical
