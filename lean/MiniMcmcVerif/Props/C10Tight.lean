import MiniMcmcVerif.Props.C10

/-!
# C10 — the tight termination bound: ⌈N/5⌉ iterations after the last final message
-/

set_option linter.unusedVariables false

namespace MiniMcmcVerif.Reporter

/-- while chains are still waiting for a bar, all five bars are in use -/
def Full (N : Nat) (st : RState) : Prop := st.nextActive < N → st.active.length = 5

theorem full_init (N : Nat) : Full N (RState.init N) := by
  intro h
  simp only [RState.init] at h ⊢
  simp only [List.length_range]
  omega

theorem full_iter (total N : Nat) (st : RState) (arrivals : List (Nat × Nat)) (h : Inv N st) (hf : Full N st) :
    Full N (iter total N st arrivals).1 := fun hlt =>
  have ⟨hw, hlen⟩ := sweep_of_waiting (drain st.mostRecent arrivals) total N st.active st.nextActive hlt
  hlen.trans (hf hw)

/-- **tight bound**: once every final message has arrived the loop breaks within `⌈(N - n_finished)/5⌉` further
    iterations — from the initial state: `⌈N/5⌉` iterations, for every number of chains. -/
theorem reporter_terminates_tight (total N : Nat) (st : RState) (h : Inv N st) (hf : Full N st)
    (hall : ∀ i, finished st.mostRecent total i = true) (hlt : st.nFinished < N) :
    ∃ k, k ≤ (N - st.nFinished + 4) / 5 ∧ (runIters total N st (List.replicate k [])).2 = true :=
  ⟨_, Nat.le_refl _, terminates_of_shown total N 5 _ st h hall (fun hw => Nat.le_of_eq (hf hw).symm)
    (by omega) (by omega)⟩

/-- from the very start: `⌈N/5⌉` iterations suffice once all final messages are in (`N ≥ 1`). -/
theorem reporter_terminates_from_init (total N : Nat) (hN : 0 < N) (mr : List (Option Nat))
    (hall : ∀ i, finished mr total i = true) :
    ∃ k, k ≤ (N + 4) / 5 ∧ (runIters total N { RState.init N with mostRecent := mr } (List.replicate k [])).2 = true :=
  -- `Inv` and `Full` do not look at `most_recent`
  reporter_terminates_tight total N { RState.init N with mostRecent := mr }
    ⟨(inv_init N).1, (inv_init N).2, (inv_init N).3⟩ (full_init N) hall hN

end MiniMcmcVerif.Reporter
