import MiniMcmcVerif.Props.C03

/-!
# C03 — the whole transition: "the next state is the previous state or a slice-admissible point of the leapfrog
trajectory through it"

`Props/C03.lean` states the facts about one subtree and one doubling. Here the invariant of the doubling loop
(`Gen.doubling_inv_of`, at an ordered field) gives a statement about `transition` (`NUTSChain::step` up to the step-size adaptation): for every
target, start point, momentum, Exp(1) draw, step size, every stream of direction uniforms, selection uniforms in `[0,1)`
and non-negative accept uniforms, if the transition terminates then its final position is the start position, or the
position of a phase point `z` with `logu < joint z` that is `k ≥ 1` leapfrog steps of size `+ε` or of size `-ε` away from
the start point `(θ, r₀)` — never anything else. Also: both ends of the trajectory are iterates of the leapfrog map.
-/

set_option linter.unusedSectionVars false
set_option linter.unusedVariables false

namespace MiniMcmcVerif.NUTS

variable {K V : Type} [Field K] [LinearOrder K] [IsStrictOrderedRing K] [HasExp K] [Add V] [Sub V] [SMul K V]
variable (target : V → K × V) (dot : V → V → K) (logu eps joint0 : K)

/-- `z` lies on the leapfrog trajectory through `z0`, at least one step away -/
def OnTraj (z0 z : Pt K V) : Prop :=
  ∃ k : Nat, z = (leapfrog target eps)^[k + 1] z0 ∨ z = (leapfrog target (-eps))^[k + 1] z0

/-- the invariant of the doubling loop -/
def LoopInv (pos0 : V) (z0 : Pt K V) (st : Loop K V) : Prop :=
  (∃ a, st.minus = (leapfrog target (-eps))^[a] z0) ∧ (∃ b, st.plus = (leapfrog target eps)^[b] z0)
  ∧ (st.pos = pos0 ∨ ∃ z, z.pos = st.pos ∧ Adm dot logu z ∧ OnTraj target eps z0 z)
  ∧ (∀ u ∈ st.sel, 0 ≤ u ∧ u < 1) ∧ (∀ u ∈ st.acc, 0 ≤ u)

theorem doubling_inv (pos0 : V) (z0 : Pt K V) (st : Loop K V) (h : LoopInv target dot logu eps pos0 z0 st) :
    LoopInv target dot logu eps pos0 z0 (doubling target dot logu eps joint0 st) :=
  Gen.doubling_inv_of target dot logu eps joint0 _ Gen.unifLaws_field (fun st => ∀ u ∈ st.acc, 0 ≤ u)
    (fun st h u hu => h u (List.mem_of_mem_tail hu))
    (fun st t h => adopted_has_admissible st.n _ (Gen.headD_forall (Nat.cast_nonneg 0) h) t) pos0 z0 st h

/-- the invariant holds of the state a transition ends in -/
theorem transition_inv (pos mom0 : V) (exp1 : K) (dirs sel acc : List K) (fuel : Nat) (st' : Loop K V)
    (hsel : ∀ u ∈ sel, 0 ≤ u ∧ u < 1) (hacc : ∀ u ∈ acc, 0 ≤ u)
    (h : transition target dot eps pos mom0 exp1 dirs sel acc fuel = some st') :
    LoopInv target dot (joint dot ⟨pos, mom0, (target pos).2, (target pos).1⟩ - exp1) eps pos
      ⟨pos, mom0, (target pos).2, (target pos).1⟩ st' :=
  Gen.loop_preserves target dot _ eps _ _ (doubling_inv target dot _ eps _ pos _) fuel _ st'
    ⟨⟨0, rfl⟩, ⟨0, rfl⟩, Or.inl rfl, hsel, hacc⟩ h

/-- **the whole transition**: final position = start position, or an admissible point of the leapfrog trajectory
    through the start point. -/
theorem transition_next_state (pos mom0 : V) (exp1 : K) (dirs sel acc : List K) (fuel : Nat) (st' : Loop K V)
    (hsel : ∀ u ∈ sel, 0 ≤ u ∧ u < 1) (hacc : ∀ u ∈ acc, 0 ≤ u)
    (h : transition target dot eps pos mom0 exp1 dirs sel acc fuel = some st') :
    let z0 : Pt K V := ⟨pos, mom0, (target pos).2, (target pos).1⟩
    let logu := joint dot z0 - exp1
    st'.pos = pos ∨ ∃ z : Pt K V, z.pos = st'.pos ∧ logu < joint dot z ∧ OnTraj target eps z0 z :=
  (transition_inv target dot eps pos mom0 exp1 dirs sel acc fuel st' hsel hacc h).2.2.1

/-- the two ends of the final trajectory are the `a`-th backward and `b`-th forward leapfrog iterate of the start point -/
theorem transition_ends (pos mom0 : V) (exp1 : K) (dirs sel acc : List K) (fuel : Nat) (st' : Loop K V)
    (hsel : ∀ u ∈ sel, 0 ≤ u ∧ u < 1) (hacc : ∀ u ∈ acc, 0 ≤ u)
    (h : transition target dot eps pos mom0 exp1 dirs sel acc fuel = some st') :
    let z0 : Pt K V := ⟨pos, mom0, (target pos).2, (target pos).1⟩
    (∃ a, st'.minus = (leapfrog target (-eps))^[a] z0) ∧ (∃ b, st'.plus = (leapfrog target eps)^[b] z0) :=
  have hinv := transition_inv target dot eps pos mom0 exp1 dirs sel acc fuel st' hsel hacc h
  ⟨hinv.1, hinv.2.1⟩

/-- **the acceptance statistic of a transition**: `α` and `n_α` reported at the end are those of the subtree built by the
    *last* doubling: `n_α` is the number of its leapfrog points (at least one), `α` the sum of
    `min(1, exp(joint − joint₀))` over them — so `α/n_α` is their mean and lies in `[0, 1]`. -/
theorem transition_statistic (hexp : ∀ x : K, 0 ≤ HasExp.exp x) (pos mom0 : V) (exp1 : K) (dirs sel acc : List K)
    (fuel : Nat) (st' : Loop K V)
    (h : transition target dot eps pos mom0 exp1 dirs sel acc fuel = some st') :
    let z0 : Pt K V := ⟨pos, mom0, (target pos).2, (target pos).1⟩
    ∃ (dirNeg : Bool) (j : Nat) (start : Pt K V) (sel' : List K),
      let t := (buildTree target dot (joint dot z0 - exp1) dirNeg eps (joint dot z0) j start sel').1
      st'.alpha = (t.leaves.map (accTerm dot (joint dot z0))).sum ∧ st'.nalpha = t.leaves.length ∧ 0 < st'.nalpha
      ∧ 0 ≤ st'.alpha / (st'.nalpha : K) ∧ st'.alpha / (st'.nalpha : K) ≤ 1 := by
  intro z0
  -- the loop starts with the stop flag up, so its result is the outcome of a doubling, whose statistic is the new subtree's
  obtain ⟨st, rfl⟩ := Gen.loop_result target dot _ eps _ fuel _ st' rfl h
  exact ⟨Gen.dirOf st, st.j, if Gen.dirOf st then st.minus else st.plus, st.sel,
    buildTree_mean_accept target dot _ _ eps _ hexp st.j _ st.sel⟩

end MiniMcmcVerif.NUTS
