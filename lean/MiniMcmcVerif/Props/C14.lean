import MiniMcmcVerif.Model.IEEE
import MiniMcmcVerif.Model.HMC
import MiniMcmcVerif.Model.NUTS
import MiniMcmcVerif.Props.IEEE
import MiniMcmcVerif.Props.C01

/-!
# C14 — no sampler ever moves to a zero-density, NaN-density or non-finite state

The decision models of C01 (MH), C02 (HMC) and C03 (NUTS) at an arbitrary carrier satisfying explicit IEEE-754 laws
about special values. `XR` (NaN | −inf | finite | +inf) satisfies all of them (non-vacuity); that hardware floats do is
in the trusted base and the law table is evaluated natively by the harness on every run.
-/

set_option linter.unusedSectionVars false

namespace MiniMcmcVerif

/-- further IEEE laws needed for the energy test of HMC (negation, `≤`). `BadPos` = NaN or +inf, `NegInf` = −inf or NaN-free −inf. -/
class IEEELawsE (F : Type) [Add F] [Sub F] [Neg F] [LT F] [LE F] extends IEEELaws F where
  BadPos : F → Prop
  IsNegInf : F → Prop
  /-- −(NaN) = NaN, −(−inf) = +inf -/
  neg_bad : ∀ a : F, Bad a → BadPos (-a)
  /-- NaN + x = NaN, +inf + x ∈ {+inf, NaN} -/
  badpos_add_left : ∀ a b : F, BadPos a → BadPos (a + b)
  /-- x − NaN = NaN, x − (+inf) ∈ {−inf, NaN} -/
  sub_badpos : ∀ a b : F, BadPos b → Bad (a - b)
  /-- only −inf is `≤` −inf, nothing is `≤` NaN -/
  le_bad : ∀ a c : F, Bad a → c ≤ a → IsNegInf c

namespace XR

def le : XR → XR → Prop
  | nan, _ => False
  | _, nan => False
  | ninf, _ => True
  | _, ninf => False
  | _, pinf => True
  | pinf, _ => False
  | fin a, fin b => a ≤ b

instance : LE XR := ⟨le⟩
instance : Neg XR := ⟨neg⟩
instance : DecidableLE XR := fun a b => by
  cases a <;> cases b <;> simp only [LE.le, le] <;> infer_instance

def badPos : XR → Prop
  | nan => True | pinf => True | _ => False
def isNegInf : XR → Prop
  | ninf => True | _ => False

/- checked cell by cell, as the laws of `Props/IEEE.lean` -/
instance : IEEELawsE XR where
  BadPos := badPos
  IsNegInf := isNegInf
  neg_bad := by rintro (_|_|_|_) ⟨⟩ <;> trivial
  badpos_add_left := by rintro (_|_|_|_) (_|_|_|_) ⟨⟩ <;> trivial
  sub_badpos := by rintro (_|_|_|_) (_|_|_|_) ⟨⟩ <;> trivial
  le_bad := by rintro (_|_|_|_) (_|_|_|_) ⟨⟩ ⟨⟩; trivial

theorem xr_satisfies_lawsE : Nonempty (IEEELawsE XR) := ⟨inferInstance⟩

end XR

namespace HMC

variable {F V : Type} [Add F] [Sub F] [Neg F] [LT F] [LE F] [Mul F] [DecidableLE F] [L : IEEELawsE F]
  [Add V] [SMul F V]

/-- **HMC never moves to a NaN / −inf density**: if the log-density at the end of the trajectory is NaN or −inf, the row
    stays at `x` — for every acceptance draw except `ln u = −inf` (`u = 0`, excepted by the property), whatever the
    kinetic energies, the current log-density and the trajectory (divergent, NaN gradients, overflowing step sizes). -/
theorem hmc_never_bad (logp : V → F) (grad : V → V) (ke : V → F) (eps half : F) (Ln : Nat) (x p : V) (lnu : F)
    (hu : ¬ L.IsNegInf lnu)
    (hbad : L.Bad (logp (leapfrogCode grad eps half Ln (x, p, (eps * half) • grad x)).1)) :
    (hmcStepRow logp grad ke eps half Ln x p lnu).1 = x :=
  -- `H(x,p) − H(x',p')` with `logp x'` NaN / −inf is NaN or −inf, and only `−inf` is `≤` that
  if_neg fun hle => hu (L.le_bad _ _ (L.sub_badpos _ _ (L.badpos_add_left _ _ (L.neg_bad _ hbad))) hle)

/-- the row is never a blend: it is the proposal or the untouched previous position. -/
theorem hmc_row_mem (logp : V → F) (grad : V → V) (ke : V → F) (eps half : F) (Ln : Nat) (x p : V) (lnu : F) :
    (hmcStepRow logp grad ke eps half Ln x p lnu).1 = x
    ∨ (hmcStepRow logp grad ke eps half Ln x p lnu).1 = (leapfrogCode grad eps half Ln (x, p, (eps * half) • grad x)).1 :=
  (ite_eq_or_eq _ _ _).symm

/-- **"nor to a position with non-finite coordinates"** for HMC: if the target assigns a NaN / −inf density to every position
    outside a set `Good`, a row ends at its previous position or at a position in `Good` (for every draw except `u = 0`). -/
theorem hmc_good_position (logp : V → F) (grad : V → V) (ke : V → F) (eps half : F) (Ln : Nat) (x p : V) (lnu : F)
    (hu : ¬ L.IsNegInf lnu) (Good : V → Prop) (hgood : ∀ y : V, ¬ Good y → L.Bad (logp y)) :
    (hmcStepRow logp grad ke eps half Ln x p lnu).1 = x ∨ Good (hmcStepRow logp grad ke eps half Ln x p lnu).1 := by
  by_cases hg : Good (leapfrogCode grad eps half Ln (x, p, (eps * half) • grad x)).1
  · exact (hmc_row_mem logp grad ke eps half Ln x p lnu).imp_right fun h => by rw [h]; exact hg
  · exact Or.inl (hmc_never_bad logp grad ke eps half Ln x p lnu hu (hgood _ hg))

end HMC

namespace NUTS

variable {F V : Type} [Add F] [Sub F] [Mul F] [Div F] [LT F] [NatCast F] [L : IEEELaws F]

/-- **NUTS never adopts a NaN / −inf density**: a phase point that passes the slice test `logu < joint` (the test every
    counted, and hence every selectable, point passed — `buildTree_counts`, `buildTree_prime_admissible`) has a
    log-density that is neither NaN nor −inf, whatever its momentum. -/
theorem nuts_admissible_not_bad (dot : V → V → F) (logu : F) (p : Pt F V) (h : logu < joint dot p) : ¬ L.Bad p.logp :=
  fun hb => L.not_lt_bad _ _ (L.bad_sub_left _ _ hb) h

/-- a point whose joint density is NaN fails both the slice test and the divergence test: it is not counted and it stops the tree. -/
theorem nuts_nan_joint (dot : V → V → F) (logu c : F) (p : Pt F V) (h : L.IsNaN (joint dot p)) :
    ¬ logu < joint dot p ∧ ¬ logu - c < joint dot p :=
  ⟨L.not_lt_nan _ _ h, L.not_lt_nan _ _ h⟩

end NUTS

/-! non-vacuity on XR: an HMC row whose proposal has density −inf stays; with finite densities and a generous draw it moves -/
section nv
open HMC
instance : SMul XR XR := ⟨fun a b => match a, b with | .fin x, .fin y => .fin (x * y) | _, _ => .nan⟩
instance : Mul XR := ⟨fun a b => match a, b with | .fin x, .fin y => .fin (x * y) | _, _ => .nan⟩
example : (hmcStepRow (K := XR) (V := XR) (fun x => if x = XR.fin 1 then XR.fin 0 else XR.ninf) (fun _ => XR.fin 0) (fun _ => XR.fin 0)
    (XR.fin 1) (XR.fin (1/2)) 1 (XR.fin 1) (XR.fin 1) (XR.fin (-5))).1 = XR.fin 1 := by decide +kernel
example : (hmcStepRow (K := XR) (V := XR) (fun _ => XR.fin 0) (fun _ => XR.fin 0) (fun _ => XR.fin 0)
    (XR.fin 1) (XR.fin (1/2)) 1 (XR.fin 1) (XR.fin 1) (XR.fin (-5))).1 = XR.fin 2 := by decide +kernel
end nv

end MiniMcmcVerif
