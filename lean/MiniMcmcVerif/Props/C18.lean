import MiniMcmcVerif.Model.Init

/-!
# C18 — initial-position helpers: shape, row-major layout, prefix property, `init_det = init_with_seed 42`
-/

namespace MiniMcmcVerif

/-- cell `(c, o)` of a `C × N` row-major layout lies inside it. -/
theorem mul_add_lt {C N c o : Nat} (hc : c < C) (ho : o < N) : c * N + o < C * N :=
  Nat.lt_of_lt_of_le (Nat.add_lt_add_left ho _) (Nat.succ_mul c N ▸ Nat.mul_le_mul_right N hc)

/-- a row-major index `a * d + b` with `b < d` determines `a` and `b`: distinct cells do not overlap. -/
theorem mul_add_inj {d a b a' b' : Nat} (hb : b < d) (hb' : b' < d) (h : a * d + b = a' * d + b') :
    a = a' ∧ b = b' := by
  have e : b = b' := by rw [← Nat.mul_add_mod_of_lt hb, h, Nat.mul_add_mod_of_lt hb']
  subst e
  exact ⟨Nat.eq_of_mul_eq_mul_right (Nat.zero_lt_of_lt hb) (Nat.add_right_cancel h), rfl⟩

end MiniMcmcVerif

namespace MiniMcmcVerif.Init

variable {α : Type}

/-- exactly `n` vectors. -/
theorem init_length (n d : Nat) (s : List α) : (initRows n d s).length = n := by
  induction n generalizing s with
  | zero => rfl
  | succ n ih => simp [initRows, ih]

/-- row `i` consists of variates `i·d … i·d+d-1` of the stream (row-major consumption). -/
theorem init_row (n d : Nat) (s : List α) (i : Nat) (hi : i < n) :
    (initRows n d s)[i]'(by rw [init_length]; exact hi) = (s.drop (i * d)).take d := by
  induction n generalizing s i with
  | zero => exact absurd hi (Nat.not_lt_zero i)
  | succ n ih =>
    cases i with
    | zero => rw [Nat.zero_mul]; rfl
    | succ i =>
      show (initRows n d (s.drop d))[i]'_ = _
      rw [ih _ i (Nat.lt_of_succ_lt_succ hi), List.drop_drop, Nat.succ_mul, Nat.add_comm]

/-- every vector has length exactly `d` as long as the generator delivers (it always does). -/
theorem init_row_length (n d : Nat) (s : List α) (hs : n * d ≤ s.length) :
    ∀ r ∈ initRows n d s, r.length = d := by
  induction n generalizing s with
  | zero => exact fun _ h => nomatch h
  | succ n ih =>
    rw [Nat.succ_mul] at hs
    intro r hr
    rcases List.mem_cons.mp hr with rfl | hr
    · exact List.length_take_of_le (Nat.le_trans (Nat.le_add_left d _) hs)
    · exact ih (s.drop d) (by rw [List.length_drop]; exact Nat.le_sub_of_add_le hs) r hr

/-- **prefix property**: the first `n` rows of a larger request (same `d`, same stream) are the smaller request. -/
theorem init_prefix (n k d : Nat) (s : List α) : (initRows (n + k) d s).take n = initRows n d s := by
  induction n generalizing s with
  | zero => simp [initRows]
  | succ n ih =>
    have : n + 1 + k = (n + k) + 1 := by omega
    rw [this]
    simp [initRows, ih]

/-- `init_det` is `init_with_seed` with seed 42. -/
theorem init_det_eq_42 (gen : UInt64 → List α) (n d : Nat) : initDet gen n d = initWithSeed gen n d 42 := rfl

/-- seeded variants are functions of `(n, d, seed)` alone: prefix property restated for the seeded helper. -/
theorem init_with_seed_prefix (gen : UInt64 → List α) (n k d : Nat) (seed : UInt64) :
    (initWithSeed gen (n + k) d seed).take n = initWithSeed gen n d seed := init_prefix n k d _

example : initRows 2 3 [1, 2, 3, 4, 5, 6, 7] = [[1, 2, 3], [4, 5, 6]] := by decide
example : initRows 3 0 [1, 2] = [[], [], []] := by decide

/-- **each variate is used exactly once, in order**: concatenating the rows gives back the first `n·d` variates of the stream —
    nothing is skipped, repeated or reordered, so the entries inherit independence and the marginal law of the stream. -/
theorem init_flatten (n d : Nat) (s : List α) : (initRows n d s).flatten = s.take (n * d) := by
  induction n generalizing s with
  | zero => simp [initRows]
  | succ n ih =>
    simp only [initRows, List.flatten_cons, ih]
    rw [Nat.succ_mul, Nat.add_comm (n * d) d, List.take_add]

/-- entry `(i, j)` is variate `i·d + j` of the stream. -/
theorem init_entry (n d : Nat) (s : List α) (i j : Nat) (hi : i < n) (hj : j < d) :
    ((initRows n d s)[i]'(by rw [init_length]; exact hi))[j]? = s[i * d + j]? := by
  rw [init_row n d s i hi, List.getElem?_take, if_pos hj, List.getElem?_drop]

/-- distinct cells read distinct stream positions (no variate is shared between two entries). -/
theorem init_cell_injective (d i j i' j' : Nat) (hj : j < d) (hj' : j' < d) (h : i * d + j = i' * d + j') :
    i = i' ∧ j = j' :=
  mul_add_inj hj hj' h

/-- the output depends on the stream only through its first `n·d` variates (what a larger request draws later cannot matter). -/
theorem init_depends_on_prefix (n d : Nat) (s t : List α) (h : s.take (n * d) = t.take (n * d)) :
    initRows n d s = initRows n d t := by
  induction n generalizing s t with
  | zero => rfl
  | succ n ih =>
    rw [Nat.succ_mul, Nat.add_comm] at h
    have h1 : s.take d = t.take d := by
      simpa only [List.take_take, Nat.min_eq_left (Nat.le_add_right d _)] using congrArg (List.take d) h
    have h2 : (s.drop d).take (n * d) = (t.drop d).take (n * d) := by
      simpa only [List.drop_take, Nat.add_sub_cancel_left] using congrArg (List.drop d) h
    show s.take d :: initRows n d (s.drop d) = t.take d :: initRows n d (t.drop d)
    rw [h1, ih _ _ h2]

example : (initRows 2 3 [1, 2, 3, 4, 5, 6, 7]).flatten = [1, 2, 3, 4, 5, 6] := by decide

end MiniMcmcVerif.Init
