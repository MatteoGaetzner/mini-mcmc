import MiniMcmcVerif.Props.C13
import MiniMcmcVerif.Props.C12

/-!
# C13 / C12 — `ess_from_chainstats`

The ESS computed from streaming tracker statistics (stats.rs 665-668): `W` and `var⁺` come from `withinvar_from_cs`
(the quantities whose ratio `collect_rhat` reports), the autocovariances from the unsplit draws.
-/

namespace MiniMcmcVerif.Stats

section
variable {α : Type} [Add α] [Sub α] [Mul α] [Div α] [NatCast α] [OfNat α 0]

/-- `collect_rhat² = var⁺ / W` of `withinvar_from_cs` (definitional) -/
theorem collectRhatSq_eq_collectWV (stats : List (Nat × α × α)) :
    collectRhatSq stats = (collectWV stats).2 / (collectWV stats).1 := rfl
end

section
variable {α : Type} [Field α] [LinearOrder α] [IsStrictOrderedRing α]

/-- whichever autocovariance path the chain length selects, `ess_from_chainstats` is the same function of the draws
    and the tracker statistics -/
theorem essFromChainStats_path_independent (chains : List (List α)) (stats : List (Nat × α × α)) :
    essFromChainStats chains stats
      = (essWith autocovBF chains (collectWV stats).1 (collectWV stats).2).2.2 := by
  unfold essFromChainStats ess
  simp only
  rw [ess_path_independent]

/-- it is `M·N/τ` with `τ` from Geyer's sequence of the tracker-based autocorrelation estimate -/
theorem essFromChainStats_eq (chains : List (List α)) (stats : List (Nat × α × α)) :
    essFromChainStats chains stats
      = 1 / (essWith autocovBF chains (collectWV stats).1 (collectWV stats).2).2.1
          * (chains.length : α) * ((chains.headD []).length : α) := by
  rw [essFromChainStats_path_independent]
  exact (tau_eq autocovBF chains _ _).2
end

end MiniMcmcVerif.Stats
