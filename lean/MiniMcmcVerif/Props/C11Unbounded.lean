import MiniMcmcVerif.Props.C11

/-!
# C11 — R-hat increases without bound as chains are moved apart

Moving one (half-)chain away from the others by `t` leaves `W` unchanged and adds `2t(x̄₀ - x̄) + t²(1 - 1/c)` to
`Σ(x̄_j - x̄)²`; hence `rhat²` is a quadratic in `t` with positive leading coefficient and exceeds every bound.
-/

set_option linter.unusedSectionVars false
set_option linter.unusedVariables false

namespace MiniMcmcVerif.Stats

variable {α : Type} [Field α] [LinearOrder α] [IsStrictOrderedRing α]

/-- shifting the first entry of a list by `t` -/
theorem sumSqDev_shift_head (a t : α) (l : List α) :
    sumSqDev ((a + t) :: l) = sumSqDev (a :: l) + 2 * t * (a - mean (a :: l)) + t ^ 2 * (1 - 1 / ((l.length : α) + 1)) := by
  rw [sumSqDev_eq _ (List.cons_ne_nil _ _), sumSqDev_eq _ (List.cons_ne_nil _ _)]
  simp only [List.map_cons, List.sum_cons, List.length_cons, mean, sum_eq, sq, Nat.cast_succ]
  -- both sides are linear in `1/(n+1)`, so no side condition is needed
  ring

/-- **moving one chain by `t`**: `W` is unchanged and `rhat²` changes by an explicit quadratic in `t`. -/
theorem rhatSq_shift (r0 : List α) (rest : List (List α)) (t : α) (hr0 : r0 ≠ []) :
    (withinVar ((r0.map (· + t)) :: rest)).1 = (withinVar (r0 :: rest)).1
    ∧ (withinVar ((r0.map (· + t)) :: rest)).2 = (withinVar (r0 :: rest)).2
        + (2 * t * (mean r0 - mean ((r0 :: rest).map mean)) + t ^ 2 * (1 - 1 / ((rest.length : α) + 1)))
          * ((r0.length : α) / ((rest.length : Nat) : α)) / (r0.length : α) := by
  have hm : mean (r0.map (· + t)) = mean r0 + t := by simpa using mean_affine r0 1 t hr0
  have hs : sumSqDev (r0.map (· + t)) = sumSqDev r0 := by simpa using sumSqDev_affine r0 1 t hr0
  rw [withinVar_eq (r0.map (· + t) :: rest) r0.length (List.length_map _), withinVar_eq (r0 :: rest) r0.length rfl]
  simp only [List.map_cons, List.length_cons, Nat.add_sub_cancel, hm, hs, true_and]
  rw [sumSqDev_shift_head, List.length_map]
  ring

theorem exists_sq_gt (x : α) : ∃ u : α, x < u ^ 2 := by
  refine ⟨x / 2 + 1, sub_pos.mp ?_⟩
  rw [show (x / 2 + 1) ^ 2 - x = (x / 2) ^ 2 + 1 by ring]
  positivity

/-- a quadratic with positive leading coefficient exceeds every bound -/
theorem exists_quadratic_gt (D E c : α) (hE : 0 < E) : ∃ t, c < 2 * t * D + t ^ 2 * E := by
  -- `(2tD + t²E)·E = (tE + D)² - D²`, and `tE + D` takes every value
  obtain ⟨u, hu⟩ := exists_sq_gt (c * E + D ^ 2)
  obtain ⟨t, rfl⟩ : ∃ t, t * E + D = u := ⟨(u - D) / E, by rw [div_mul_cancel₀ _ hE.ne', sub_add_cancel]⟩
  refine ⟨t, lt_of_mul_lt_mul_right ?_ hE.le⟩
  rw [← lt_sub_iff_add_lt] at hu
  exact hu.trans_eq (by ring)

/-- **unbounded**: with at least two chains, `W > 0`, moving the first chain far enough pushes `rhat²` above any `M`. -/
theorem rhat_unbounded (r0 : List α) (rest : List (List α)) (hr0 : r0 ≠ []) (hrest : rest ≠ [])
    (hW : 0 < (withinVar (r0 :: rest)).1) (M : α) :
    ∃ t : α, M < rhatSq ((r0.map (· + t)) :: rest) := by
  have hc : (0 : α) < (rest.length : α) := Nat.cast_pos.mpr (List.length_pos_iff.mpr hrest)
  have hn : (0 : α) < (r0.length : α) := Nat.cast_pos.mpr (List.length_pos_iff.mpr hr0)
  have hE : (0 : α) < 1 - 1 / ((rest.length : α) + 1) :=
    sub_pos.mpr ((one_div _).trans_lt (inv_lt_one_of_one_lt₀ (lt_add_of_pos_left 1 hc)))
  -- by `rhatSq_shift`, `rhat²(t) = (var⁺ + (2tD + t²E)·A)/W` with `E, A, W > 0`
  obtain ⟨t, ht⟩ := exists_quadratic_gt (mean r0 - mean ((r0 :: rest).map mean)) _
    ((M * (withinVar (r0 :: rest)).1 - (withinVar (r0 :: rest)).2) / _) hE
  obtain ⟨h1, h2⟩ := rhatSq_shift r0 rest t hr0
  refine ⟨t, ?_⟩
  show M < (withinVar _).2 / (withinVar _).1
  rw [h1, h2, lt_div_iff₀ hW, ← sub_lt_iff_lt_add', mul_div_assoc]
  exact (div_lt_iff₀ (div_pos (div_pos hn hc) hn)).mp ht

end MiniMcmcVerif.Stats
