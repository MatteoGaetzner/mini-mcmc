import MiniMcmcVerif.Model.NUTS
import Mathlib.Logic.Function.Iterate

/-!
# NUTS — the tree, one doubling and the doubling loop, over an arbitrary carrier

Nothing here uses arithmetic or an order on the scalar: `K` carries only the notation the model needs, so every
statement holds verbatim of IEEE floats. What the selection logic needs of its uniforms is collected in `UnifLaws`.
`Props/C03*.lean` instantiate at an ordered field, `Props/C14Nuts.lean` at a carrier with the IEEE special-value laws.

`buildTree` is used through `buildTree_induct` (a fact about every subtree follows from the one-leaf case and the
merge case), `loop` through `loop_preserves`; `doubling` is read through `dirOf`, `subtree` and `adopts`, which name
its `let`s, so that its fields are what one expects by definition (`(doubling … st).sel` is `(subtree … st).2`, and so on).
-/

set_option linter.unusedSectionVars false
set_option linter.unusedVariables false

namespace MiniMcmcVerif.NUTS.Gen

open MiniMcmcVerif.NUTS

variable {K V : Type} [Add K] [Sub K] [Mul K] [Div K] [Neg K] [LT K] [LE K] [DecidableLT K] [DecidableLE K]
  [NatCast K] [HasExp K] [Add V] [Sub V] [SMul K V]

/-- slice-admissible -/
def Adm (dot : V → V → K) (logu : K) (p : Pt K V) : Prop := logu < joint dot p

section tree
variable (target : V → K × V) (dot : V → V → K) (logu : K) (dirNeg : Bool) (eps joint0 : K)

def stepOf (dirNeg : Bool) (eps : K) : K := if dirNeg then -eps else eps

/-- start point of the second half -/
def startOf (dirNeg : Bool) (t : Tree K V) : Pt K V := if dirNeg then t.minus else t.plus

/-- the merged tree of the recursive case -/
def mergeTrees (dot : V → V → K) (dirNeg : Bool) (t1 t2 : Tree K V) (u : K) : Tree K V :=
  let minus := if dirNeg then t2.minus else t1.minus
  let plus := if dirNeg then t1.plus else t2.plus
  let ratio := ((t2.n : Nat) : K) / ((max (t1.n + t2.n) 1 : Nat) : K)
  ⟨minus, plus, if u < ratio then t2.prime else t1.prime, t1.n + t2.n, t2.s && noUTurn dot minus plus,
    t1.alpha + t2.alpha, t1.nalpha + t2.nalpha, t1.leaves ++ t2.leaves⟩

section
variable {target dot logu dirNeg eps joint0}

theorem bt_stop {j : Nat} {z : Pt K V} {sel : List K}
    (h : (buildTree target dot logu dirNeg eps joint0 j z sel).1.s = false) :
    buildTree target dot logu dirNeg eps joint0 (j + 1) z sel = buildTree target dot logu dirNeg eps joint0 j z sel :=
  if_neg (ne_true_of_eq_false h)

/-- The halves enter as variables `r1 r2` with their defining equations, so that rewriting with this does not copy the
    recursive calls into the goal. -/
theorem bt_go {j : Nat} {z : Pt K V} {sel : List K} {r1 r2 : Tree K V × List K}
    (h1 : buildTree target dot logu dirNeg eps joint0 j z sel = r1)
    (h2 : buildTree target dot logu dirNeg eps joint0 j (startOf dirNeg r1.1) r1.2 = r2) (h : r1.1.s = true) :
    buildTree target dot logu dirNeg eps joint0 (j + 1) z sel
      = (mergeTrees dot dirNeg r1.1 r2.1 (r2.2.headD ((0 : Nat) : K)), r2.2.tail) := by
  subst h1 h2
  exact if_pos h

end

/-- **induction over subtrees**: a property of (depth, start point, selection stream, result) holds of every `buildTree`
    result if it holds of every one-leaf tree and passes from two subtrees to their merge (the second started where the
    first ended, on the stream the first left). A stopped first half is returned as it is by the level above: the case
    `stop`, which comes last and is the identity by default, as it is for every property that does not mention the depth. -/
theorem buildTree_induct {P : Nat → Pt K V → List K → Tree K V × List K → Prop}
    (leaf : ∀ z sel, P 0 z sel (buildTree target dot logu dirNeg eps joint0 0 z sel))
    (merge : ∀ j z sel r1 r2, buildTree target dot logu dirNeg eps joint0 j z sel = r1 →
      buildTree target dot logu dirNeg eps joint0 j (startOf dirNeg r1.1) r1.2 = r2 → r1.1.s = true →
      P j z sel r1 → P j (startOf dirNeg r1.1) r1.2 r2 →
      P (j + 1) z sel (mergeTrees dot dirNeg r1.1 r2.1 (r2.2.headD ((0 : Nat) : K)), r2.2.tail))
    (j : Nat) (z : Pt K V) (sel : List K)
    (stop : ∀ j z sel r, buildTree target dot logu dirNeg eps joint0 j z sel = r → r.1.s = false →
      P j z sel r → P (j + 1) z sel r := by exact fun _ _ _ _ _ _ h => h) :
    P j z sel (buildTree target dot logu dirNeg eps joint0 j z sel) := by
  induction j generalizing z sel with
  | zero => exact leaf z sel
  | succ j ih =>
    cases hs : (buildTree target dot logu dirNeg eps joint0 j z sel).1.s
    · rw [bt_stop hs]; exact stop j z sel _ rfl hs (ih z sel)
    · rw [bt_go rfl rfl hs]; exact merge j z sel _ _ rfl rfl hs (ih _ _) (ih _ _)

/-- the candidate of a subtree is one of the points it visited. -/
theorem buildTree_prime_mem (j : Nat) (z : Pt K V) (sel : List K) :
    (buildTree target dot logu dirNeg eps joint0 j z sel).1.prime ∈ (buildTree target dot logu dirNeg eps joint0 j z sel).1.leaves := by
  refine buildTree_induct target dot logu dirNeg eps joint0 (P := fun _ _ _ r => r.1.prime ∈ r.1.leaves)
    (fun _ _ => List.mem_singleton_self _) ?_ j z sel
  intro j z sel r1 r2 _ _ _ p1 p2
  simp only [mergeTrees, List.mem_append]
  split
  · exact Or.inr p2
  · exact Or.inl p1

/-- what is left of the selection stream is a suffix of what was handed in. -/
theorem buildTree_sel_suffix (j : Nat) (z : Pt K V) (sel : List K) :
    ∃ k, (buildTree target dot logu dirNeg eps joint0 j z sel).2 = sel.drop k := by
  refine buildTree_induct target dot logu dirNeg eps joint0 (P := fun _ _ sel r => ∃ k, r.2 = sel.drop k)
    (fun _ _ => ⟨0, rfl⟩) ?_ j z sel
  rintro j z sel r1 r2 _ _ _ ⟨k1, h1⟩ ⟨k2, h2⟩
  exact ⟨k1 + k2 + 1, by simp only [h2, h1, List.tail_drop, List.drop_drop, Nat.add_assoc]⟩

section
variable {target dot logu dirNeg eps joint0}

/-- so whatever holds of every uniform handed in holds of every uniform handed back -/
theorem buildTree_sel_forall {U : K → Prop} {j : Nat} {z : Pt K V} {sel : List K} {r : Tree K V × List K}
    (h : buildTree target dot logu dirNeg eps joint0 j z sel = r) (hsel : ∀ u ∈ sel, U u) : ∀ u ∈ r.2, U u := by
  obtain ⟨k, hk⟩ := buildTree_sel_suffix target dot logu dirNeg eps joint0 j z sel
  rw [← h, hk]; exact fun u hu => hsel u (List.mem_of_mem_drop hu)

/-- in particular nothing comes back from the empty stream -/
theorem buildTree_sel_nil {j : Nat} {z : Pt K V} {r : Tree K V × List K}
    (h : buildTree target dot logu dirNeg eps joint0 j z [] = r) : r.2 = [] := by
  obtain ⟨k, hk⟩ := buildTree_sel_suffix target dot logu dirNeg eps joint0 j z []
  rw [← h, hk, List.drop_nil]

end

theorem startOf_merge (t1 t2 : Tree K V) (u : K) :
    startOf dirNeg (mergeTrees dot dirNeg t1 t2 u) = startOf dirNeg t2 := by cases dirNeg <;> rfl

theorem startOf_not_merge (t1 t2 : Tree K V) (u : K) :
    startOf (!dirNeg) (mergeTrees dot dirNeg t1 t2 u) = startOf (!dirNeg) t1 := by cases dirNeg <;> rfl

theorem range_map_iterate_add (f : Pt K V → Pt K V) (z : Pt K V) (m n : Nat) :
    (List.range (m + n)).map (fun k => f^[k + 1] z)
      = (List.range m).map (fun k => f^[k + 1] z) ++ (List.range n).map (fun k => f^[k + 1] (f^[m] z)) := by
  rw [List.range_add, List.map_append, List.map_map]
  congr 1
  refine List.map_congr_left fun k _ => ?_
  rw [Function.comp_apply, ← Function.iterate_add_apply, Nat.add_comm (k + 1) m, Nat.add_assoc]

/-- **the points of a subtree are the leapfrog trajectory** from its start point in its direction: the `k`-th visited
    point is `k + 1` leapfrog steps of the signed step size away, the outer end (`minus` for `v = -1`, `plus` for
    `v = +1`) is the last of them and the inner end the first. -/
theorem buildTree_leaves_chain (j : Nat) (z : Pt K V) (sel : List K) :
    (buildTree target dot logu dirNeg eps joint0 j z sel).1.leaves
        = (List.range (buildTree target dot logu dirNeg eps joint0 j z sel).1.leaves.length).map
            (fun k => (leapfrog target (stepOf dirNeg eps))^[k + 1] z)
    ∧ (buildTree target dot logu dirNeg eps joint0 j z sel).1.leaves ≠ []
    ∧ startOf dirNeg (buildTree target dot logu dirNeg eps joint0 j z sel).1
        = (leapfrog target (stepOf dirNeg eps))^[(buildTree target dot logu dirNeg eps joint0 j z sel).1.leaves.length] z
    ∧ startOf (!dirNeg) (buildTree target dot logu dirNeg eps joint0 j z sel).1 = leapfrog target (stepOf dirNeg eps) z := by
  refine buildTree_induct target dot logu dirNeg eps joint0
    (P := fun _ z _ r => r.1.leaves = (List.range r.1.leaves.length).map (fun k => (leapfrog target (stepOf dirNeg eps))^[k + 1] z)
      ∧ r.1.leaves ≠ [] ∧ startOf dirNeg r.1 = (leapfrog target (stepOf dirNeg eps))^[r.1.leaves.length] z
      ∧ startOf (!dirNeg) r.1 = leapfrog target (stepOf dirNeg eps) z) ?_ ?_ j z sel
  · -- both ends of a one-leaf tree are that leaf
    exact fun z sel => ⟨rfl, List.cons_ne_nil _ _, ite_self _, ite_self _⟩
  · rintro j z sel r1 r2 _ _ _ ⟨c1, n1, o1, i1⟩ ⟨c2, n2, o2, i2⟩
    have hl : (mergeTrees dot dirNeg r1.1 r2.1 (r2.2.headD ((0 : Nat) : K))).leaves = r1.1.leaves ++ r2.1.leaves := rfl
    refine ⟨?_, ?_, ?_, ?_⟩
    · rw [hl, List.length_append, range_map_iterate_add, ← o1, ← c1, ← c2]
    · rw [hl]; exact List.append_ne_nil_of_left_ne_nil n1 _
    · rw [startOf_merge, hl, o2, o1, ← Function.iterate_add_apply, List.length_append, Nat.add_comm]
    · rw [startOf_not_merge, i1]

/-- so a subtree started `c` steps along the trajectory through `z0`, in its own direction, ends `length + c` steps
    along it, and all its points are at least one step along it. -/
theorem buildTree_from_iterate (z0 : Pt K V) (c j : Nat) (sel : List K) :
    let f := leapfrog target (stepOf dirNeg eps)
    let t := (buildTree target dot logu dirNeg eps joint0 j (f^[c] z0) sel).1
    startOf dirNeg t = f^[t.leaves.length + c] z0 ∧ ∀ p ∈ t.leaves, ∃ k, p = f^[k + 1] z0 := by
  intro f t
  obtain ⟨hc, -, ho, -⟩ := buildTree_leaves_chain target dot logu dirNeg eps joint0 j (f^[c] z0) sel
  refine ⟨by rw [ho, ← Function.iterate_add_apply], fun p hp => ?_⟩
  rw [hc] at hp
  obtain ⟨k, -, rfl⟩ := List.mem_map.mp hp
  exact ⟨k + c, by rw [← Function.iterate_add_apply, Nat.add_right_comm]⟩

theorem headD_forall {U : K → Prop} {d : K} (hd : U d) {l : List K} (h : ∀ u ∈ l, U u) : U (l.headD d) := by
  cases l with
  | nil => exact hd
  | cons a _ => exact h a List.mem_cons_self

/-- the three facts about uniforms the selection logic needs (see the module doc) -/
structure UnifLaws (U : K → Prop) : Prop where
  h0 : ∀ (u : K) (n : Nat), 0 < n → U u → ¬ u < ((0 : Nat) : K) / ((n : Nat) : K)
  h1 : ∀ (u : K) (n : Nat), 0 < n → U u → u < ((n : Nat) : K) / ((n : Nat) : K)
  h2 : ∀ (u : K) (n : Nat), 0 < n → U u → ¬ u < minOne (((0 : Nat) : K) / ((n : Nat) : K))
  /-- the default `0` used for an exhausted stream behaves like a uniform -/
  hz : U ((0 : Nat) : K)

/-- **the candidate is slice-admissible** — arbitrary carrier -/
theorem buildTree_prime_admissible (U : K → Prop) (hU : UnifLaws U) (j : Nat) (z : Pt K V) (sel : List K)
    (hsel : ∀ u ∈ sel, U u) :
    0 < (buildTree target dot logu dirNeg eps joint0 j z sel).1.n →
      Adm dot logu (buildTree target dot logu dirNeg eps joint0 j z sel).1.prime := by
  refine (buildTree_induct target dot logu dirNeg eps joint0
    (P := fun _ _ sel r => (∀ u ∈ sel, U u) → 0 < r.1.n → Adm dot logu r.1.prime) ?_ ?_ j z sel) hsel
  · -- a leaf counts itself (`n' = 1`) exactly when it is admissible
    intro z sel _ (hn : 0 < if logu < joint dot (leapfrog target (stepOf dirNeg eps) z) then 1 else 0)
    split at hn
    · assumption
    · exact absurd hn (Nat.lt_irrefl 0)
  · intro j z sel r1 r2 h1 h2 _ p1 p2 hsel hn
    have hsel1 : ∀ u ∈ r1.2, U u := buildTree_sel_forall h1 hsel
    have hu : U (r2.2.headD ((0 : Nat) : K)) := headD_forall hU.hz (buildTree_sel_forall h2 hsel1)
    simp only [mergeTrees] at hn ⊢
    -- the second half's candidate is taken iff `u < n₂ / max (n₁ + n₂) 1`: impossible when `n₂ = 0`, certain when `n₁ = 0`
    split
    · rename_i hlt
      refine p2 hsel1 (Nat.pos_of_ne_zero fun h0 => ?_)
      rw [h0] at hlt
      exact hU.h0 _ _ (Nat.le_max_right _ 1) hu hlt
    · rename_i hlt
      refine p1 hsel (Nat.pos_of_ne_zero fun h0 => hlt ?_)
      rw [h0, Nat.zero_add] at hn ⊢
      rw [Nat.max_eq_left hn]
      exact hU.h1 _ _ hn hu

end tree

section transition
variable (target : V → K × V) (dot : V → V → K) (logu eps joint0 : K)

def OnTraj (z0 z : Pt K V) : Prop :=
  ∃ k : Nat, z = (leapfrog target eps)^[k + 1] z0 ∨ z = (leapfrog target (-eps))^[k + 1] z0

/-- extending the trajectory `minus … plus` through `z0` by a subtree in direction `d`: both ends stay iterates of the
    start point, and every point of the subtree lies on the trajectory. -/
theorem extend_ends (z0 minus plus : Pt K V) (a b : Nat) (ha : minus = (leapfrog target (-eps))^[a] z0)
    (hb : plus = (leapfrog target eps)^[b] z0) (d : Bool) (j : Nat) (sel : List K) :
    let t := (buildTree target dot logu d eps joint0 j (if d then minus else plus) sel).1
    (∃ a', (if d then t.minus else minus) = (leapfrog target (-eps))^[a'] z0)
    ∧ (∃ b', (if d then plus else t.plus) = (leapfrog target eps)^[b'] z0)
    ∧ ∀ p ∈ t.leaves, OnTraj target eps z0 p := by
  subst ha hb
  cases d
  · -- forwards: the subtree starts at `plus` and moves it
    obtain ⟨ho, hl⟩ := buildTree_from_iterate target dot logu false eps joint0 z0 b j sel
    exact ⟨⟨a, rfl⟩, ⟨_, ho⟩, fun p hp => (hl p hp).imp fun k => Or.inl⟩
  · -- backwards: it starts at `minus`, with step `-eps`
    obtain ⟨ho, hl⟩ := buildTree_from_iterate target dot logu true eps joint0 z0 a j sel
    exact ⟨⟨_, ho⟩, ⟨b, rfl⟩, fun p hp => (hl p hp).imp fun k => Or.inr⟩

/-! ### one doubling -/

/-- is the next doubling made backwards (`v = -1`)? -/
def dirOf (st : Loop K V) : Bool := !(decide (st.dirs.headD ((0 : Nat) : K) < (halfK : K)))

/-- the subtree the next doubling builds, with the selection uniforms it hands back -/
def subtree (st : Loop K V) : Tree K V × List K :=
  buildTree target dot logu (dirOf st) eps joint0 st.j (if dirOf st then st.minus else st.plus) st.sel

/-- is the candidate of that subtree adopted? -/
def adopts (st : Loop K V) : Bool :=
  (subtree target dot logu eps joint0 st).1.s
    && decide (st.acc.headD ((0 : Nat) : K)
        < minOne ((((subtree target dot logu eps joint0 st).1.n : Nat) : K) / ((st.n : Nat) : K)))

/-- the position after a doubling is the position before it, or the candidate of the new subtree — the latter only if that
    subtree did not stop and the accept draw is below `min(1, n'/n)`. -/
theorem doubling_pos (st : Loop K V) :
    (doubling target dot logu eps joint0 st).pos = st.pos
    ∨ ((doubling target dot logu eps joint0 st).pos = (subtree target dot logu eps joint0 st).1.prime.pos
      ∧ (subtree target dot logu eps joint0 st).1.s = true
      ∧ st.acc.headD ((0 : Nat) : K)
          < minOne ((((subtree target dot logu eps joint0 st).1.n : Nat) : K) / ((st.n : Nat) : K))) := by
  show (if adopts target dot logu eps joint0 st then _ else st.pos) = st.pos ∨ _
  cases h : adopts target dot logu eps joint0 st
  · exact Or.inl rfl
  · exact Or.inr ⟨if_pos h, by rwa [adopts, Bool.and_eq_true, decide_eq_true_eq] at h⟩

/-- invariant of the doubling loop: both ends of the trajectory are leapfrog iterates of the start point `z0`, the
    position is the start position or that of an admissible point of the trajectory, the selection uniforms left satisfy
    `U`; `A` is what else is assumed of the state (accept uniforms, running count). -/
def LoopInvOf (U : K → Prop) (A : Loop K V → Prop) (pos0 : V) (z0 : Pt K V) (st : Loop K V) : Prop :=
  (∃ a, st.minus = (leapfrog target (-eps))^[a] z0) ∧ (∃ b, st.plus = (leapfrog target eps)^[b] z0)
  ∧ (st.pos = pos0 ∨ ∃ z, z.pos = st.pos ∧ Adm dot logu z ∧ OnTraj target eps z0 z)
  ∧ (∀ u ∈ st.sel, U u) ∧ A st

/-- a doubling keeps `LoopInvOf`, provided it keeps `A` and `A` rules out adopting from a subtree without admissible
    points (`hadopt`; over a field `0 ≤ u` does, over floats `0 < n` is needed as well since `0/0` is NaN). -/
theorem doubling_inv_of (U : K → Prop) (hU : UnifLaws U) (A : Loop K V → Prop)
    (hA : ∀ st, A st → A (doubling target dot logu eps joint0 st))
    (hadopt : ∀ (st : Loop K V) (t : Tree K V), A st →
      st.acc.headD ((0 : Nat) : K) < minOne (((t.n : Nat) : K) / ((st.n : Nat) : K)) → 0 < t.n)
    (pos0 : V) (z0 : Pt K V) (st : Loop K V) (h : LoopInvOf target dot logu eps U A pos0 z0 st) :
    LoopInvOf target dot logu eps U A pos0 z0 (doubling target dot logu eps joint0 st) := by
  obtain ⟨⟨a, ha⟩, ⟨b, hb⟩, hpos, hsel, hst⟩ := h
  obtain ⟨hm, hp, htraj⟩ := extend_ends target dot logu eps joint0 z0 st.minus st.plus a b ha hb (dirOf st) st.j st.sel
  refine ⟨hm, hp, ?_, buildTree_sel_forall rfl hsel, hA st hst⟩
  rcases doubling_pos target dot logu eps joint0 st with h | ⟨h, -, hlt⟩
  · rw [h]; exact hpos
  · exact Or.inr ⟨_, h.symm,
      buildTree_prime_admissible target dot logu _ eps joint0 U hU _ _ _ hsel (hadopt st _ hst hlt),
      htraj _ (buildTree_prime_mem target dot logu _ eps joint0 _ _ _)⟩

def LoopInv (U : K → Prop) (pos0 : V) (z0 : Pt K V) (st : Loop K V) : Prop :=
  (∃ a, st.minus = (leapfrog target (-eps))^[a] z0) ∧ (∃ b, st.plus = (leapfrog target eps)^[b] z0)
  ∧ (st.pos = pos0 ∨ ∃ z, z.pos = st.pos ∧ Adm dot logu z ∧ OnTraj target eps z0 z)
  ∧ (∀ u ∈ st.sel, U u) ∧ (∀ u ∈ st.acc, U u) ∧ 0 < st.n

theorem doubling_inv (U : K → Prop) (hU : UnifLaws U) (pos0 : V) (z0 : Pt K V) (st : Loop K V)
    (h : LoopInv target dot logu eps U pos0 z0 st) :
    LoopInv target dot logu eps U pos0 z0 (doubling target dot logu eps joint0 st) :=
  doubling_inv_of target dot logu eps joint0 U hU (fun st => (∀ u ∈ st.acc, U u) ∧ 0 < st.n)
    (fun st h => ⟨fun u hu => h.1 u (List.mem_of_mem_tail hu), Nat.add_pos_left h.2 _⟩)
    (fun st t h hlt => Nat.pos_of_ne_zero fun h0 => hU.h2 _ _ h.2 (headD_forall hU.hz h.1) (h0 ▸ hlt)) pos0 z0 st h

/-! ### the loop and the transition -/

/-- what every doubling keeps holds of the loop's result -/
theorem loop_preserves (P : Loop K V → Prop) (hstep : ∀ st, P st → P (doubling target dot logu eps joint0 st))
    (fuel : Nat) (st st' : Loop K V) (hP : P st) (h : loop target dot logu eps joint0 fuel st = some st') : P st' := by
  induction fuel generalizing st with
  | zero => cases h
  | succ fuel ih =>
    rw [loop] at h
    split at h
    · exact ih _ (hstep st hP) h
    · exact Option.some.inj h ▸ hP

/-- started with the stop flag up, the loop returns the outcome of a doubling -/
theorem loop_result (fuel : Nat) (st st' : Loop K V) (hs : st.s = true)
    (h : loop target dot logu eps joint0 fuel st = some st') : ∃ st'', st' = doubling target dot logu eps joint0 st'' := by
  cases fuel with
  | zero => cases h
  | succ fuel =>
    -- the first iteration is a doubling, and being the outcome of a doubling is kept by every doubling
    rw [loop, if_pos hs] at h
    exact loop_preserves target dot logu eps joint0 (fun s => ∃ st'', s = doubling target dot logu eps joint0 st'')
      (fun s _ => ⟨s, rfl⟩) fuel _ st' ⟨st, rfl⟩ h

/-- **the whole transition, arbitrary carrier** -/
theorem transition_next_state (U : K → Prop) (hU : UnifLaws U) (pos mom0 : V) (exp1 : K) (dirs sel acc : List K)
    (fuel : Nat) (st' : Loop K V) (hsel : ∀ u ∈ sel, U u) (hacc : ∀ u ∈ acc, U u)
    (h : transition target dot eps pos mom0 exp1 dirs sel acc fuel = some st') :
    let z0 : Pt K V := ⟨pos, mom0, (target pos).2, (target pos).1⟩
    let logu := joint dot z0 - exp1
    st'.pos = pos ∨ ∃ z : Pt K V, z.pos = st'.pos ∧ logu < joint dot z ∧ OnTraj target eps z0 z :=
  (loop_preserves target dot _ eps _ _ (doubling_inv target dot _ eps _ U hU pos _) fuel _ st'
    ⟨⟨0, rfl⟩, ⟨0, rfl⟩, Or.inl rfl, hsel, hacc, Nat.one_pos⟩ h).2.2.1

end transition

end MiniMcmcVerif.NUTS.Gen
