import MiniMcmcVerif.Model.HMC
import Mathlib.Algebra.Module.Basic
import Mathlib.Algebra.Field.Basic
import Mathlib.Logic.Function.Iterate

/-!
# C02 — an HMC update is `L` leapfrog steps plus a Metropolis test on the Hamiltonian
-/

set_option linter.unusedSectionVars false

namespace MiniMcmcVerif.HMC

section general
variable {K V : Type} [Add V] [SMul K V] [Mul K]

theorem iter_eq {σ : Type} (f : σ → σ) (n : Nat) (s : σ) : iter f n s = f^[n] s := by
  induction n generalizing s with
  | zero => rfl
  | succ n ih => exact ih (f s)

/-- one pass of the coded loop body is one velocity-Verlet step, and re-establishes the invariant
    "the carried summand is `(ε/2)·∇logp` at the current position". -/
theorem leapBody_eq_verlet (grad : V → V) (eps half : K) (x p : V) :
    leapBody grad eps half (x, p, (eps * half) • grad x)
      = ((verlet grad eps half (x, p)).1, (verlet grad eps half (x, p)).2,
         (eps * half) • grad (verlet grad eps half (x, p)).1) := rfl

/-- **refinement of the fused loop to velocity-Verlet**: started with the carried summand `(ε/2)·∇logp(x)`, `L`
    iterations of the loop are exactly `L` leapfrog steps, for every `L` (also `L = 0`), and the invariant holds on exit. -/
theorem leapfrogCode_eq_verlet (grad : V → V) (eps half : K) (L : Nat) (x p : V) :
    leapfrogCode grad eps half L (x, p, (eps * half) • grad x)
      = (((verlet grad eps half)^[L] (x, p)).1, ((verlet grad eps half)^[L] (x, p)).2,
         (eps * half) • grad ((verlet grad eps half)^[L] (x, p)).1) := by
  unfold leapfrogCode
  induction L generalizing x p with
  | zero => rfl
  | succ L ih => rw [iter, leapBody_eq_verlet, ih, Function.iterate_succ_apply]

variable [Neg K] [Add K] [Sub K] [LE K] [DecidableLE K]

/-- **the update rule**: each row ends at its unchanged previous position or at the point reached by exactly `L`
    leapfrog steps from `(x, p)`, the latter exactly when `ln u ≤ H(x,p) - H(x',p')`. -/
theorem hmc_step_result (logp : V → K) (grad : V → V) (ke : V → K) (eps half : K) (L : Nat) (x p : V) (lnu : K) :
    let s' := (verlet grad eps half)^[L] (x, p)
    (lnu ≤ hamiltonian logp ke x p - hamiltonian logp ke s'.1 s'.2 →
        (hmcStepRow logp grad ke eps half L x p lnu).1 = s'.1)
    ∧ (¬ lnu ≤ hamiltonian logp ke x p - hamiltonian logp ke s'.1 s'.2 →
        (hmcStepRow logp grad ke eps half L x p lnu).1 = x) := by
  simp only [hmcStepRow, leapfrogCode_eq_verlet]
  exact ⟨fun h => if_pos h, fun h => if_neg h⟩

/-- **no stale gradient**: the summands left by the previous step (e.g. at a rejected proposal) do not influence the
    next step — the step recomputes the summand at the current position. -/
theorem hmc_step_ignores_carried (logp : V → K) (grad : V → V) (ke : V → K) (eps half : K) (L : Nat)
    (positions c₁ c₂ momenta : List V) (lnus : List K) :
    hmcStep logp grad ke eps half L positions c₁ momenta lnus = hmcStep logp grad ke eps half L positions c₂ momenta lnus := rfl

/-- **rows never influence one another**: row `i` of the new batch is the single-row update of row `i`'s own
    position, momentum and acceptance draw — whatever the other rows are. -/
theorem hmc_rows_independent (logp : V → K) (grad : V → V) (ke : V → K) (eps half : K) (L : Nat)
    (positions carried momenta : List V) (lnus : List K) (i : Nat)
    (hp : i < positions.length) (hm : i < momenta.length) (hu : i < lnus.length) :
    (hmcStep logp grad ke eps half L positions carried momenta lnus).1[i]?
      = some (hmcStepRow logp grad ke eps half L positions[i] momenta[i] lnus[i]).1 := by
  simp only [hmcStep, List.map_zipWith, List.length_zipWith, List.length_zip, Nat.min_assoc, lt_inf_iff, hp, hm,
    hu, and_self, getElem?_pos, List.getElem_zipWith, List.getElem_zip]

/-- the row's new position is always one of exactly two values: the old position or the end of the `L`-step trajectory —
    never a blend of the two, never another point of the trajectory. -/
theorem hmc_step_two_valued (logp : V → K) (grad : V → V) (ke : V → K) (eps half : K) (L : Nat) (x p : V) (lnu : K) :
    (hmcStepRow logp grad ke eps half L x p lnu).1 = x
    ∨ (hmcStepRow logp grad ke eps half L x p lnu).1 = ((verlet grad eps half)^[L] (x, p)).1 :=
  have h := hmc_step_result logp grad ke eps half L x p lnu
  (Decidable.em _).symm.imp h.2 h.1

/-- **`L = 0`**: with no leapfrog step the proposal is the current position, so the row keeps its position whatever the
    momentum and the acceptance draw are (any carrier, IEEE floats included: no arithmetic on the position happens). -/
theorem hmc_step_L0 (logp : V → K) (grad : V → V) (ke : V → K) (eps half : K) (x p : V) (lnu : K) :
    (hmcStepRow logp grad ke eps half 0 x p lnu).1 = x :=
  (hmc_step_two_valued logp grad ke eps half 0 x p lnu).elim id id

/-- the batch keeps its size: as many new positions as there are (position, momentum, draw) triples. -/
theorem hmc_step_length (logp : V → K) (grad : V → V) (ke : V → K) (eps half : K) (L : Nat)
    (positions carried momenta : List V) (lnus : List K) (h1 : momenta.length = positions.length) (h2 : lnus.length = positions.length) :
    (hmcStep logp grad ke eps half L positions carried momenta lnus).1.length = positions.length := by
  simp [hmcStep, h1, h2]

/-- the summands a step leaves behind are `(ε/2)·∇logp` at the end of every row's trajectory (so the invariant needed
    by the *next* call's first half-step would hold even without the recomputation, for accepted rows). -/
theorem hmc_step_summand (logp : V → K) (grad : V → V) (ke : V → K) (eps half : K) (L : Nat) (x p : V) (lnu : K) :
    (hmcStepRow logp grad ke eps half L x p lnu).2 = (eps * half) • grad ((verlet grad eps half)^[L] (x, p)).1 := by
  simp only [hmcStepRow, leapfrogCode_eq_verlet]

end general

section reversible
variable {K V : Type} [Field K] [AddCommGroup V] [Module K V]

/-- momentum flip -/
def flip (s : V × V) : V × V := (s.1, -s.2)

/-- one leapfrog step is reversible: integrating again from `(x', -p')` returns to `(x, -p)`. -/
theorem verlet_flip_verlet (grad : V → V) (eps half : K) (s : V × V) :
    verlet grad eps half (flip (verlet grad eps half s)) = flip s := by
  obtain ⟨x, p⟩ := s
  -- on the way back the first half-kick `h` undoes the last one, the drift undoes the drift, and so on
  have hp (q h : V) : -(q + h) + h = -q := by rw [neg_add, neg_add_cancel_right]
  have hx (q : V) : x + eps • q + eps • -q = x := by rw [smul_neg, add_neg_cancel_right]
  simp only [verlet, flip, hp, hx]

/-- **time reversibility of the integrator**, any `L`, any gradient field, any step size (exact arithmetic; in
    floating point "up to rounding"). -/
theorem verlet_reversible (grad : V → V) (eps half : K) (L : Nat) (s : V × V) :
    (verlet grad eps half)^[L] (flip ((verlet grad eps half)^[L] s)) = flip s := by
  induction L generalizing s with
  | zero => rfl
  | succ L ih =>
    rw [Function.iterate_succ_apply' (verlet grad eps half) L s, Function.iterate_succ_apply,
        verlet_flip_verlet, ih]

end reversible

/-! ### non-vacuity: `L = 3`, a 1-D quadratic target over ℚ, an accepted and a rejected step -/
section nv
def gradQ (x : ℚ) : ℚ := -x
def logpQ (x : ℚ) : ℚ := -(x * x) / 2
def keQ (p : ℚ) : ℚ := p * p / 2
example : (hmcStepRow logpQ gradQ keQ (1/2) (1/2) 3 1 1 (-1)).1 = 139 / 128 := by decide +kernel
example : (hmcStepRow logpQ gradQ keQ (1/2) (1/2) 3 1 1 1).1 = 1 := by decide +kernel
end nv

end MiniMcmcVerif.HMC
