import MiniMcmcVerif.Props.C01Measure

/-!
# C06 / C02 / C03 — the coded comparisons realise the probabilities the algorithms require

Under a uniform draw `u` on the unit interval

* the HMC test `ln u ≤ ΔH` (non-strict, unlike MH's) accepts with probability `min 1 (exp ΔH)`;
* a NUTS test `u < r` (direction `u < 1/2`, candidate adoption `u < min(1, n'/n)`, selection `u < n''/(n'+n'')`) succeeds
  with probability `r` clipped to `[0,1]` — the hypothesis under which `selection_uniform` gives the uniform candidate.
-/

namespace MiniMcmcVerif.HMC

open MeasureTheory

/-- **HMC acceptance probability**: the non-strict test `ln u ≤ ΔH` accepts with probability `min 1 (exp ΔH)`. -/
theorem hmc_accept_probability (r : ℝ) :
    volume {u : ℝ | 0 < u ∧ u < 1 ∧ Real.log u ≤ r} = ENNReal.ofReal (min 1 (Real.exp r)) := by
  -- the set lies between that of the strict test and a half-open interval of the same length
  apply le_antisymm
  · rw [← sub_zero (min 1 _), ← Real.volume_Ioc]
    exact measure_mono fun u ⟨h0, h1, hl⟩ => ⟨h0, le_min h1.le ((Real.log_le_iff_le_exp h0).mp hl)⟩
  · rw [← MH.accept_probability]
    exact measure_mono fun u ⟨h0, h1, hl⟩ => ⟨h0, h1, hl.le⟩

end MiniMcmcVerif.HMC

namespace MiniMcmcVerif.NUTS

open MeasureTheory

/-- **a test `u < r` under a uniform draw on `[0,1)` succeeds with probability `r` clipped to `[0,1]`** -/
theorem uniform_lt_probability (r : ℝ) :
    volume {u : ℝ | 0 ≤ u ∧ u < 1 ∧ u < r} = ENNReal.ofReal (min 1 (max 0 r)) := by
  have : {u : ℝ | 0 ≤ u ∧ u < 1 ∧ u < r} = Set.Ico 0 (min 1 r) := by
    ext u
    simp only [Set.mem_ofPred_eq, Set.mem_Ico, lt_min_iff]
  rw [this, Real.volume_Ico, sub_zero]
  rcases le_total r 0 with h | h
  · rw [max_eq_left h, min_eq_right zero_le_one, ENNReal.ofReal_zero, ENNReal.ofReal_of_nonpos ((min_le_right _ _).trans h)]
  · rw [max_eq_right h]

/-- **the slice level**: Algorithm 6 draws `u ~ U(0, exp(joint₀))`, the code `log u = joint₀ − e` with `e ~ Exp(1)`. These are
    the same law because `−log U` of a uniform `U` has the Exp(1) tail `P(−log U > t) = exp(−t)`, `t ≥ 0`. -/
theorem neg_log_uniform_tail (t : ℝ) (ht : 0 ≤ t) :
    volume {u : ℝ | 0 < u ∧ u < 1 ∧ t < -Real.log u} = ENNReal.ofReal (Real.exp (-t)) := by
  simp only [lt_neg (a := t)]
  rw [MH.accept_probability, min_eq_right (Real.exp_le_one_iff.mpr (neg_nonpos.mpr ht))]

end MiniMcmcVerif.NUTS
